import Replicon.Gen.Consts
import Replicon.Model.Basic
import Replicon.Model.Varint
import Replicon.Model.EntityCodec
import Replicon.Proofs.Varint
import Replicon.Proofs.EntityCodec
import Replicon.Props.C15
import Replicon.Model.HistorySpec
import Replicon.Proofs.Tick
import Replicon.Proofs.Window
import Replicon.Proofs.ConfirmHistory
import Replicon.Props.C12
import Replicon.Proofs.MutateTicks
import Replicon.Model.Backend
import Replicon.Proofs.Backend
import Replicon.Props.C17
import Replicon.Model.Scene
import Replicon.Proofs.Scene
import Replicon.Props.C18
import Replicon.Model.ProtocolHash
import Replicon.Proofs.ProtocolHash
import Replicon.Props.C14
import Replicon.Model.Wire
import Replicon.Model.Visibility
import Replicon.Proofs.Visibility
import Replicon.Props.C08
import Replicon.Model.Packing
import Replicon.Proofs.Packing
import Replicon.Props.C10
import Replicon.Model.Server
import Replicon.Model.Client
import Replicon.Proofs.Lookup
import Replicon.Proofs.AList
import Replicon.Proofs.Server
import Replicon.Proofs.Run
import Replicon.Proofs.Frame
import Replicon.Proofs.Ops
import Replicon.Proofs.Client
import Replicon.Props.C01
import Replicon.Props.C02
import Replicon.Props.C03
import Replicon.Props.C07
import Replicon.Props.C09
import Replicon.Props.C11
import Replicon.Props.C16
import Replicon.Proofs.Events
import Replicon.Props.C04
import Replicon.Props.C05
import Replicon.Props.C13
import Replicon.Model.Receive
import Replicon.Proofs.Receive
import Replicon.Props.C06
import Replicon.Model.Joint
import Replicon.Proofs.Joint
import Replicon.Proofs.JointEvents
import Replicon.Proofs.Fresh
import Replicon.Proofs.JointLocal
import Replicon.Proofs.Sync
import Replicon.Proofs.ClientSync
import Replicon.Proofs.Session
import Replicon.Proofs.Kinds
import Replicon.Proofs.KindsSession
import Replicon.Proofs.ClientKinds
import Replicon.Proofs.TwoWay
import Replicon.Proofs.RunRecords
import Replicon.Proofs.ClientVals
import Replicon.Proofs.Jump
import Replicon.Proofs.RecordValues
import Replicon.Proofs.FramePerfect
import Replicon.Proofs.Belief
