import Replicon.Proofs.AList
/-
`Model/Server.lean` function by function, in the order of a replication run; later files use these
statements instead of unfolding the model.  The decision of `collect_changes` for one entity is a
table (`entOut_cases`), a whole run for one client one equation (`runClient_eq`) over the message it
assembles (`runUpdate`); `Server.runAll` is that run for every authorised client (`runAll_outs`).
-/
namespace Replicon.Srv

theorem foldl_inv {α β : Type} (f : β → α → β) (P : β → Prop) (h : ∀ b a, P b → P (f b a)) :
    ∀ (l : List α) (b : β), P b → P (l.foldl f b) := by
  intro l
  induction l with
  | nil => exact fun _ hb => hb
  | cons a as ih => exact fun b hb => ih (f b a) (h b a hb)

theorem register_rest (thisRun time : Nat) (parts : List (List Nat)) : ∀ (cl : Cli),
    cl.register thisRun time parts =
      { cl with inflight := (cl.register thisRun time parts).inflight, nextIdx := (cl.register thisRun time parts).nextIdx } := by
  unfold Cli.register
  induction parts with
  | nil => intro cl; rfl
  | cons p ps ih => intro cl; rw [List.foldl_cons]; exact ih _

theorem ackOne_unknown (cl : Cli) (idx : Nat) (h : cl.inflight.find? (·.index = idx) = none) :
    ackOne cl idx = cl := by
  unfold ackOne; rw [h]

/-- one step of the fold of `ack_mutate_message` -/
def ackStep (tick : Nat) (mt : List (Nat × Nat)) (e : Nat) : List (Nat × Nat) :=
  match aget mt e with
  | some t => if t ≤ tick then aset mt e tick else mt
  | none => mt

/-- the fold of `ack_mutate_message` over the entities of one message -/
def ackFold (info : Inflight) (mt : List (Nat × Nat)) : List (Nat × Nat) :=
  info.ents.foldl (ackStep info.tick) mt

theorem aget_ackStep (tick : Nat) (mt : List (Nat × Nat)) (e j : Nat) :
    aget (ackStep tick mt e) j = if j = e then (aget mt j).map (max tick) else aget mt j := by
  unfold ackStep
  by_cases hj : j = e
  · subst hj
    rw [if_pos rfl]
    cases h : aget mt j with
    | none => exact h
    | some t =>
      show aget (if t ≤ tick then aset mt j tick else mt) j = some (max tick t)
      split
      · next hle => rw [aget_aset_same, Nat.max_eq_left hle]
      · next hlt => rw [h, Nat.max_eq_right (Nat.le_of_not_le hlt)]
  · rw [if_neg hj]
    split
    · split
      · exact aget_aset_other _ _ _ _ hj
      · rfl
    · rfl

theorem aget_ackFold (info : Inflight) (mt : List (Nat × Nat)) (j : Nat) :
    aget (ackFold info mt) j = if j ∈ info.ents then (aget mt j).map (max info.tick) else aget mt j := by
  unfold ackFold
  induction info.ents generalizing mt with
  | nil => rfl
  | cons e es ih =>
    rw [List.foldl_cons, ih, aget_ackStep]
    by_cases hj : j = e
    · rw [if_pos hj, if_pos (show j ∈ e :: es from hj ▸ List.mem_cons_self)]
      split
      · -- a second acknowledgement of the same entity: `max` is idempotent
        rw [Option.map_map]
        exact congrFun (congrArg Option.map (funext fun t =>
          (Nat.max_assoc ..).symm.trans (congrArg (max · t) (Nat.max_self _)))) _
      · rfl
    · rw [if_neg hj]
      by_cases hm : j ∈ es
      · rw [if_pos hm, if_pos (List.mem_cons_of_mem _ hm)]
      · rw [if_neg hm, if_neg fun h => (List.mem_cons.mp h).elim hj hm]

theorem ackFold_sound (info : Inflight) (mt : List (Nat × Nat)) (j : Nat) :
    (aget (ackFold info mt) j = aget mt j) ∨
    (j ∈ info.ents ∧ ∃ t, aget mt j = some t ∧ t ≤ info.tick ∧ aget (ackFold info mt) j = some info.tick) := by
  rw [aget_ackFold]
  by_cases hm : j ∈ info.ents
  · rw [if_pos hm]
    cases h : aget mt j with
    | none => exact .inl rfl
    | some t =>
      by_cases hle : t ≤ info.tick
      · exact .inr ⟨hm, t, rfl, hle, congrArg some (Nat.max_eq_left hle)⟩
      · exact .inl (congrArg some (Nat.max_eq_right (Nat.le_of_not_le hle)))
  · exact .inl (if_neg hm)

theorem ackOne_known (cl : Cli) (idx : Nat) (info : Inflight) (h : cl.inflight.find? (·.index = idx) = some info) :
    ackOne cl idx = { cl with mutTick := ackFold info cl.mutTick, inflight := cl.inflight.filter (·.index ≠ idx) } := by
  unfold ackOne ackFold; rw [h]; rfl

/-! For one entity `collectEntity` (the body of `collect_changes`) looks at four things — is the
entity new to the client, which components travel as insertions, which as mutations, is a removal
buffered — and `entOut` is its decision as a function of these four.  `entOut_cases` is the
decision table; everything else about `collectEntity` follows from it and from `mem_sentOn` without
unfolding `collectEntity` again. -/

theorem compPath_unknown (s : Server) (fresh : Bool) (r : Rate) (c : Comp) :
    compPath s none fresh r c = .insertion := rfl

/-- why nothing is said about a component: the client has the entity at tick `t`, nothing about the
entity is fresh, and the component is neither new nor changed since `t` at a rate that fires -/
structure PathNothing (s : Server) (known : Option Nat) (fresh : Bool) (r : Rate) (comp : Comp) (t : Nat) : Prop where
  known : known = some t
  notFresh : fresh = false
  notAdded : ¬ comp.added > s.lastRun
  notChanged : ¬ (comp.changed > t ∧ r.sendMutations s.tick = true)

theorem compPath_nothing (s : Server) (known : Option Nat) (fresh : Bool) (r : Rate) (comp : Comp)
    (h : compPath s known fresh r comp = Path.nothing) : ∃ t, PathNothing s known fresh r comp t := by
  unfold compPath at h
  cases known with
  | none => cases h
  | some t =>
    simp only at h
    by_cases hc : (!fresh && !decide (comp.added > s.lastRun)) = true
    · rw [if_pos hc] at h
      simp only [Bool.and_eq_true, Bool.not_eq_true', decide_eq_false_iff_not] at hc
      refine ⟨t, rfl, hc.1, hc.2, ?_⟩
      rintro ⟨h1, h2⟩
      have : (decide (comp.changed > t) && r.sendMutations s.tick) = true := by simp [h1, h2]
      rw [if_pos this] at h
      cases h
    · rw [if_neg hc] at h; cases h

theorem compPath_known_insertion (s : Server) (t : Nat) (r : Rate) (c : Comp) :
    compPath s (some t) false r c = .insertion ↔ c.added > s.lastRun := by
  unfold compPath
  simp only [Bool.not_false, Bool.true_and]
  by_cases h : c.added > s.lastRun
  · simp [h]
  · simp only [h, decide_false, Bool.not_false, if_true, iff_false]
    split <;> simp

theorem present_keys_sublist (s : Server) (ent : SEnt) : ((present s ent).map (·.1)).Sublist (s.rates.map (·.1)) := by
  unfold present
  induction s.rates with
  | nil => exact List.Sublist.slnil
  | cons x xs ih =>
    rw [List.filterMap_cons]
    cases hg : aget ent.comps x.1 with
    | none => simp only [hg, Option.map_none, List.map_cons]; exact ih.cons _
    | some c => simp only [hg, Option.map_some, List.map_cons]; exact ih.cons_cons _

theorem present_keys_nodup (s : Server) (ent : SEnt) (h : (s.rates.map (·.1)).Nodup) :
    ((present s ent).map (·.1)).Nodup := (present_keys_sublist s ent).nodup h

/-- the `(kind, value)` pairs of the entity's replicated components that travel on path `p` -/
def sentOn (s : Server) (known : Option Nat) (fresh : Bool) (p : Path) (ent : SEnt) : List (Nat × Nat) :=
  (present s ent).filterMap fun (x : Nat × Rate × Comp) =>
    if compPath s known fresh x.2.1 x.2.2 = p then some (x.1, x.2.2.val) else none

theorem filterMap_ite {α β : Type} (p : α → Prop) [DecidablePred p] (f : α → β) (l : List α) :
    (l.filterMap fun x => if p x then some (f x) else none) = (l.filter fun x => decide (p x)).map f := by
  induction l with
  | nil => rfl
  | cons x xs ih =>
    rw [List.filterMap_cons, List.filter_cons]
    by_cases h : p x
    · rw [if_pos h, if_pos (decide_eq_true h), List.map_cons, ih]
    · rw [if_neg h, if_neg (fun hd => h (of_decide_eq_true hd)), ih]

theorem sentOn_eq (s : Server) (known : Option Nat) (fresh : Bool) (p : Path) (ent : SEnt) :
    sentOn s known fresh p ent =
      ((present s ent).filter fun x => decide (compPath s known fresh x.2.1 x.2.2 = p)).map fun x => (x.1, x.2.2.val) :=
  filterMap_ite _ _ _

theorem mem_sentOn {s : Server} {known : Option Nat} {fresh : Bool} {p : Path} {ent : SEnt} {k v : Nat} :
    (k, v) ∈ sentOn s known fresh p ent ↔
      ∃ r c, (k, r, c) ∈ present s ent ∧ compPath s known fresh r c = p ∧ v = c.val := by
  rw [sentOn_eq, List.mem_map]
  constructor
  · rintro ⟨⟨k', r, c⟩, hm, h⟩
    cases h
    exact ⟨r, c, (List.mem_filter.mp hm).1, of_decide_eq_true (List.mem_filter.mp hm).2, rfl⟩
  · rintro ⟨r, c, hm, hp, rfl⟩
    exact ⟨(k, r, c), List.mem_filter.mpr ⟨hm, decide_eq_true hp⟩, rfl⟩

theorem mem_keys_sentOn {s : Server} {known : Option Nat} {fresh : Bool} {p : Path} {ent : SEnt} {k : Nat} :
    k ∈ (sentOn s known fresh p ent).map (·.1) ↔ ∃ r c, (k, r, c) ∈ present s ent ∧ compPath s known fresh r c = p := by
  rw [List.mem_map]
  constructor
  · rintro ⟨⟨k', v⟩, hm, rfl⟩
    obtain ⟨r, c, hp, hc, _⟩ := mem_sentOn.mp hm
    exact ⟨r, c, hp, hc⟩
  · rintro ⟨r, c, hp, hc⟩
    exact ⟨(k, c.val), mem_sentOn.mpr ⟨r, c, hp, hc, rfl⟩, rfl⟩

theorem sentOn_keys_sublist (s : Server) (known : Option Nat) (fresh : Bool) (p : Path) (ent : SEnt) :
    ((sentOn s known fresh p ent).map (·.1)).Sublist ((present s ent).map (·.1)) := by
  rw [sentOn_eq, List.map_map]
  exact List.filter_sublist.map _

theorem sentOn_eq_nil {s : Server} {known : Option Nat} {fresh : Bool} {p : Path} {ent : SEnt}
    (h : ∀ k r c, (k, r, c) ∈ present s ent → compPath s known fresh r c ≠ p) : sentOn s known fresh p ent = [] := by
  apply List.eq_nil_iff_forall_not_mem.mpr
  rintro ⟨k, v⟩ hm
  obtain ⟨r, c, hp, hc, _⟩ := mem_sentOn.mp hm
  exact h k r c hp hc

theorem sentOn_unknown (s : Server) (fresh : Bool) (ent : SEnt) :
    sentOn s none fresh .insertion ent = (present s ent).map fun x => (x.1, x.2.2.val) := by
  rw [sentOn_eq]
  exact congrArg _ (List.filter_eq_self.mpr fun _ _ => rfl)

/-- insertions / mutations of a known, plainly visible, old entity -/
def insOf (s : Server) (t : Nat) (ent : SEnt) : List (Nat × Nat) :=
  (present s ent).filterMap fun (x : Nat × Rate × Comp) =>
    if compPath s (some t) false x.2.1 x.2.2 = .insertion then some (x.1, x.2.2.val) else none

def mutOf (s : Server) (t : Nat) (ent : SEnt) : List (Nat × Nat) :=
  (present s ent).filterMap fun (x : Nat × Rate × Comp) =>
    if compPath s (some t) false x.2.1 x.2.2 = .mutation then some (x.1, x.2.2.val) else none

theorem insOf_eq (s : Server) (t : Nat) (ent : SEnt) : insOf s t ent = sentOn s (some t) false .insertion ent := rfl
theorem mutOf_eq (s : Server) (t : Nat) (ent : SEnt) : mutOf s t ent = sentOn s (some t) false .mutation ent := rfl

/-- `fresh` of `collect_changes`: the marker was added in this tick window or the entity just
became visible -/
def fresh (s : Server) (cl : Cli) (e m : Nat) : Bool :=
  decide (m > s.lastRun) || decide (visState s cl e = Vis.State.gained)

theorem fresh_old (s : Server) (cl : Cli) (e m : Nat) (hvis : visState s cl e = .visible) (hold : ¬ m > s.lastRun) :
    fresh s cl e m = false := by
  unfold fresh
  rw [hvis, decide_eq_false hold]
  rfl

/-- the decision of `collect_changes` as a function of what it looks at: is the entity new to the
client, the components to insert and to mutate, is a removal buffered -/
def entOut (e : Nat) (new : Bool) (ins muts : List (Nat × Nat)) (rem : Bool) : EntOut :=
  if new || !ins.isEmpty || rem then
    if ins.isEmpty && muts.isEmpty && !new then { bump := true }
    else { toUpdate := some { ent := e, comps := ins ++ muts }, bump := true }
  else if !muts.isEmpty then { toMutate := some { ent := e, comps := muts } }
  else {}

theorem collectEntity_eq (s : Server) (thisRun : Nat) (cl : Cli) (e : Nat) (ent : SEnt) (m : Nat) :
    collectEntity s thisRun cl e ent m =
      if visState s cl e = Vis.State.hidden then {} else
        entOut e (fresh s cl e m || (aget cl.mutTick e).isNone)
          (sentOn s (aget cl.mutTick e) (fresh s cl e m) .insertion ent)
          (sentOn s (aget cl.mutTick e) (fresh s cl e m) .mutation ent)
          (aget s.removalBuf e).isSome := rfl

theorem entOut_new (e : Nat) (ins muts : List (Nat × Nat)) (rem : Bool) :
    entOut e true ins muts rem = { toUpdate := some { ent := e, comps := ins ++ muts }, bump := true } := by
  simp [entOut]

theorem entOut_cases (e : Nat) (new : Bool) (ins muts : List (Nat × Nat)) (rem : Bool) :
    (entOut e new ins muts rem = {} ∧ new = false ∧ ins = [] ∧ muts = [] ∧ rem = false) ∨
    (entOut e new ins muts rem = { bump := true } ∧ new = false ∧ ins = [] ∧ muts = [] ∧ rem = true) ∨
    (entOut e new ins muts rem = { toMutate := some { ent := e, comps := muts } } ∧
      new = false ∧ ins = [] ∧ muts ≠ [] ∧ rem = false) ∨
    (entOut e new ins muts rem = { toUpdate := some { ent := e, comps := ins ++ muts }, bump := true } ∧
      (new = true ∨ ins ≠ [] ∨ muts ≠ [])) := by
  cases new with
  | true => exact Or.inr (Or.inr (Or.inr ⟨entOut_new e ins muts rem, Or.inl rfl⟩))
  | false =>
    cases ins with
    | cons x xs => exact Or.inr (Or.inr (Or.inr ⟨rfl, Or.inr (Or.inl (List.cons_ne_nil x xs))⟩))
    | nil =>
      cases muts with
      | nil => cases rem with
        | false => exact Or.inl ⟨rfl, rfl, rfl, rfl, rfl⟩
        | true => exact Or.inr (Or.inl ⟨rfl, rfl, rfl, rfl, rfl⟩)
      | cons x xs => cases rem with
        | false => exact Or.inr (Or.inr (Or.inl ⟨rfl, rfl, rfl, List.cons_ne_nil x xs, rfl⟩))
        | true => exact Or.inr (Or.inr (Or.inr ⟨rfl, Or.inr (Or.inr (List.cons_ne_nil x xs))⟩))

theorem entOut_toUpdate {e : Nat} {new : Bool} {ins muts : List (Nat × Nat)} {rem : Bool} {r : MsgEnt}
    (h : (entOut e new ins muts rem).toUpdate = some r) :
    entOut e new ins muts rem = { toUpdate := some r, bump := true } ∧ r = { ent := e, comps := ins ++ muts } := by
  rcases entOut_cases e new ins muts rem with ⟨ho, _⟩ | ⟨ho, _⟩ | ⟨ho, _⟩ | ⟨ho, _⟩ <;> rw [ho] at h ⊢ <;> cases h
  exact ⟨rfl, rfl⟩

theorem entOut_toMutate {e : Nat} {new : Bool} {ins muts : List (Nat × Nat)} {rem : Bool} {r : MsgEnt}
    (h : (entOut e new ins muts rem).toMutate = some r) :
    entOut e new ins muts rem = { toMutate := some r } ∧ r = { ent := e, comps := muts } ∧
      new = false ∧ rem = false := by
  rcases entOut_cases e new ins muts rem with ⟨ho, _⟩ | ⟨ho, _⟩ | ⟨ho, h1, _, _, h3⟩ | ⟨ho, _⟩ <;> rw [ho] at h ⊢ <;> cases h
  exact ⟨rfl, rfl, h1, h3⟩

theorem entOut_mem (e : Nat) (new : Bool) {ins muts : List (Nat × Nat)} (rem : Bool) {x : Nat × Nat}
    (h : x ∈ ins ++ muts) :
    (∃ r, (entOut e new ins muts rem).toUpdate = some r ∧ x ∈ r.comps) ∨
    (ins = [] ∧ ∃ r, (entOut e new ins muts rem).toMutate = some r ∧ x ∈ r.comps) := by
  rcases entOut_cases e new ins muts rem with ⟨_, _, h1, h2, _⟩ | ⟨_, _, h1, h2, _⟩ | ⟨ho, _, h1, _⟩ | ⟨ho, _⟩
  · rw [h1, h2] at h; cases h
  · rw [h1, h2] at h; cases h
  · rw [h1] at h; exact Or.inr ⟨h1, _, by rw [ho], h⟩
  · exact Or.inl ⟨_, by rw [ho], h⟩

theorem collect_hidden (s : Server) (thisRun : Nat) (cl : Cli) (e : Nat) (ent : SEnt) (m : Nat)
    (h : visState s cl e = .hidden) : collectEntity s thisRun cl e ent m = {} := by
  rw [collectEntity_eq, if_pos h]

theorem collect_visible (s : Server) (thisRun : Nat) (cl : Cli) (e : Nat) (ent : SEnt) (m : Nat)
    (h : visState s cl e ≠ .hidden) :
    collectEntity s thisRun cl e ent m =
      entOut e (fresh s cl e m || (aget cl.mutTick e).isNone)
        (sentOn s (aget cl.mutTick e) (fresh s cl e m) .insertion ent)
        (sentOn s (aget cl.mutTick e) (fresh s cl e m) .mutation ent)
        (aget s.removalBuf e).isSome := by
  rw [collectEntity_eq, if_neg h]

/-- the decision for an entity with a CHANGES record `r` -/
structure ToUpdate (s : Server) (thisRun : Nat) (cl : Cli) (e : Nat) (ent : SEnt) (m : Nat) (r : MsgEnt) : Prop where
  out : collectEntity s thisRun cl e ent m = { toUpdate := some r, bump := true }
  record : r = { ent := e, comps := sentOn s (aget cl.mutTick e) (fresh s cl e m) .insertion ent ++
                                  sentOn s (aget cl.mutTick e) (fresh s cl e m) .mutation ent }

theorem collect_toUpdate_some {s : Server} {thisRun : Nat} {cl : Cli} {e : Nat} {ent : SEnt} {m : Nat} {r : MsgEnt}
    (h : (collectEntity s thisRun cl e ent m).toUpdate = some r) : ToUpdate s thisRun cl e ent m r := by
  by_cases hv : visState s cl e = .hidden
  · rw [collect_hidden s thisRun cl e ent m hv] at h; cases h
  · rw [collect_visible s thisRun cl e ent m hv] at h
    exact ⟨(collect_visible s thisRun cl e ent m hv).trans (entOut_toUpdate h).1, (entOut_toUpdate h).2⟩

theorem toUpdate_ent (s : Server) (thisRun : Nat) (cl : Cli) (e : Nat) (ent : SEnt) (m : Nat) (r : MsgEnt)
    (h : (collectEntity s thisRun cl e ent m).toUpdate = some r) : r.ent = e := by
  rw [(collect_toUpdate_some h).record]

theorem toUpdate_bump (s : Server) (thisRun : Nat) (cl : Cli) (e : Nat) (ent : SEnt) (m : Nat) (r : MsgEnt)
    (h : (collectEntity s thisRun cl e ent m).toUpdate = some r) : (collectEntity s thisRun cl e ent m).bump = true := by
  rw [(collect_toUpdate_some h).out]

theorem collect_toUpdate (s : Server) (thisRun : Nat) (cl : Cli) (e : Nat) (ent : SEnt) (m : Nat) (r : MsgEnt)
    (h : (collectEntity s thisRun cl e ent m).toUpdate = some r) :
    r.ent = e ∧ (collectEntity s thisRun cl e ent m).bump = true :=
  ⟨toUpdate_ent s thisRun cl e ent m r h, toUpdate_bump s thisRun cl e ent m r h⟩

/-- the decision for an entity with a mutate record `r`: the client knows the entity, nothing is
inserted, no removal is buffered -/
structure ToMutate (s : Server) (thisRun : Nat) (cl : Cli) (e : Nat) (ent : SEnt) (m : Nat) (r : MsgEnt) : Prop where
  out : collectEntity s thisRun cl e ent m = { toMutate := some r }
  record : r = { ent := e, comps := sentOn s (aget cl.mutTick e) (fresh s cl e m) .mutation ent }
  known : (fresh s cl e m || (aget cl.mutTick e).isNone) = false
  noRemoval : (aget s.removalBuf e).isSome = false

theorem collect_toMutate_some {s : Server} {thisRun : Nat} {cl : Cli} {e : Nat} {ent : SEnt} {m : Nat} {r : MsgEnt}
    (h : (collectEntity s thisRun cl e ent m).toMutate = some r) : ToMutate s thisRun cl e ent m r := by
  by_cases hv : visState s cl e = .hidden
  · rw [collect_hidden s thisRun cl e ent m hv] at h; cases h
  · rw [collect_visible s thisRun cl e ent m hv] at h
    obtain ⟨ho, hr, h1, h3⟩ := entOut_toMutate h
    exact ⟨(collect_visible s thisRun cl e ent m hv).trans ho, hr, h1, h3⟩

theorem toMutate_ent (s : Server) (thisRun : Nat) (cl : Cli) (e : Nat) (ent : SEnt) (m : Nat) (r : MsgEnt)
    (h : (collectEntity s thisRun cl e ent m).toMutate = some r) : r.ent = e := by
  rw [(collect_toMutate_some h).record]

/-- An entity the client has no tick for (a client authorized later, an entity that just became
visible) and that is not hidden is written to the update message whole. -/
theorem collect_unknown_whole (s : Server) (thisRun : Nat) (cl : Cli) (e : Nat) (ent : SEnt) (m : Nat)
    (hvis : visState s cl e ≠ .hidden) (hk : aget cl.mutTick e = none) :
    collectEntity s thisRun cl e ent m =
      { toUpdate := some { ent := e, comps := (present s ent).map fun x => (x.1, x.2.2.val) },
        toMutate := none, bump := true } := by
  have hm : sentOn s none (fresh s cl e m) .mutation ent = [] :=
    sentOn_eq_nil fun _ _ _ _ h => by cases h
  rw [collect_visible s thisRun cl e ent m hvis, hk, Option.isNone_none, Bool.or_true, entOut_new,
    sentOn_unknown, hm, List.append_nil]

theorem collect_known (s : Server) (thisRun : Nat) (cl : Cli) (e : Nat) (ent : SEnt) (m t : Nat)
    (hvis : visState s cl e = .visible) (hk : aget cl.mutTick e = some t) (hold : ¬ m > s.lastRun) :
    collectEntity s thisRun cl e ent m = entOut e false (insOf s t ent) (mutOf s t ent) (aget s.removalBuf e).isSome := by
  have hf := fresh_old s cl e m hvis hold
  rw [collect_visible s thisRun cl e ent m (by rw [hvis]; intro h; cases h), hk, hf, insOf_eq, mutOf_eq]
  rfl

theorem collect_named_val (s : Server) (thisRun : Nat) (cl : Cli) (e : Nat) (ent : SEnt) (m : Nat)
    (hv : visState s cl e ≠ .hidden) (k : Nat) (r : Rate) (c : Comp) (hp : (k, r, c) ∈ present s ent)
    (hpath : compPath s (aget cl.mutTick e) (fresh s cl e m) r c ≠ .nothing) :
    (∃ u, (collectEntity s thisRun cl e ent m).toUpdate = some u ∧ (k, c.val) ∈ u.comps) ∨
    (∃ u, (collectEntity s thisRun cl e ent m).toMutate = some u ∧ (k, c.val) ∈ u.comps) := by
  have hx : (k, c.val) ∈ sentOn s (aget cl.mutTick e) (fresh s cl e m) .insertion ent ++
      sentOn s (aget cl.mutTick e) (fresh s cl e m) .mutation ent := by
    cases hc : compPath s (aget cl.mutTick e) (fresh s cl e m) r c with
    | insertion => exact List.mem_append_left _ (mem_sentOn.mpr ⟨r, c, hp, hc, rfl⟩)
    | mutation => exact List.mem_append_right _ (mem_sentOn.mpr ⟨r, c, hp, hc, rfl⟩)
    | nothing => exact absurd hc hpath
  rw [collect_visible s thisRun cl e ent m hv]
  exact (entOut_mem e _ _ hx).imp id And.right

theorem collect_resend (s : Server) (thisRun : Nat) (cl : Cli) (e : Nat) (ent : SEnt) (m t : Nat)
    (k : Nat) (r : Rate) (c : Comp)
    (hvis : visState s cl e = .visible) (hk : aget cl.mutTick e = some t)
    (hold : ¬ m > s.lastRun) (hm : (k, r, c) ∈ present s ent)
    (hadded : ¬ c.added > s.lastRun) (hchanged : c.changed > t) (hrate : r.sendMutations s.tick = true) :
    (∃ u, (collectEntity s thisRun cl e ent m).toUpdate = some u ∧ (k, c.val) ∈ u.comps) ∨
    (∃ u, (collectEntity s thisRun cl e ent m).toMutate = some u ∧ (k, c.val) ∈ u.comps) := by
  apply collect_named_val s thisRun cl e ent m (by rw [hvis]; intro h; cases h) k r c hm
  have hf := fresh_old s cl e m hvis hold
  have hpath : compPath s (some t) false r c = .mutation := by
    unfold compPath
    simp [hadded, hchanged, hrate]
  rw [hk, hf, hpath]
  intro h; cases h

/-- `collect_changes` has nothing to say about the entity -/
def Quiet (s : Server) (cl : Cli) (e : Nat) (ent : SEnt) (m : Nat) : Prop :=
  visState s cl e = .visible ∧ (∃ t, aget cl.mutTick e = some t ∧
    ∀ k r c, (k, r, c) ∈ present s ent → compPath s (some t) false r c = .nothing) ∧
  ¬ m > s.lastRun ∧ aget s.removalBuf e = none

theorem collect_quiet (s : Server) (thisRun : Nat) (cl : Cli) (e : Nat) (ent : SEnt) (m : Nat)
    (h : Quiet s cl e ent m) : collectEntity s thisRun cl e ent m = {} := by
  obtain ⟨hvis, ⟨t, hk, hall⟩, hold, hrem⟩ := h
  have h1 : insOf s t ent = [] :=
    (insOf_eq s t ent).trans (sentOn_eq_nil fun k r c hp h => by rw [hall k r c hp] at h; cases h)
  have h2 : mutOf s t ent = [] :=
    (mutOf_eq s t ent).trans (sentOn_eq_nil fun k r c hp h => by rw [hall k r c hp] at h; cases h)
  rw [collect_known s thisRun cl e ent m t hvis hk hold, h1, h2, hrem]
  rfl

theorem cell_setCell (cl : Cli) (e j : Nat) (x : Vis.Cell) :
    cell (setCell cl e x) j = if j = e then x else cell cl j := by
  unfold cell setCell
  by_cases hx : x = {}
  · rw [if_pos hx, aget_adel]
    split
    · exact hx.symm
    · rfl
  · rw [if_neg hx, aget_aset]
    split <;> rfl

/-- one iteration of the despawn-buffer loop -/
def despawnStep (s : Server) (acc : Cli × List Nat) (e : Nat) : Cli × List Nat :=
  let c0 := cell acc.1 e
  let ds := if Vis.isVisible s.white c0 then acc.2 ++ [e] else acc.2
  let cl1 := setCell acc.1 e (Vis.removeDespawned s.white c0)
  ({ cl1 with mutTick := adel cl1.mutTick e }, ds)

/-- the second loop of `collect_despawns`, on the state `R` the first leaves: the entities
`drain_lost` yields are reported and forgotten -/
def drainPhase (s : Server) (R : Cli × List Nat) : Cli × List Nat :=
  ({ R.1 with
      mutTick := ((R.1.vis.filter fun (x : Nat × Vis.Cell) => Vis.lost s.white x.2).map (·.1)).foldl adel R.1.mutTick,
      vis := R.1.vis.map fun x => (x.1, Vis.drainLost s.white x.2) },
   R.2 ++ (R.1.vis.filter fun (x : Nat × Vis.Cell) => Vis.lost s.white x.2).map (·.1))

theorem despawnPhase_eq (s : Server) (cl : Cli) :
    despawnPhase s cl = drainPhase s (s.despawnBuf.foldl (despawnStep s) (cl, [])) := rfl

theorem despawnFold_rest (s : Server) : ∀ (l : List Nat) (acc : Cli × List Nat),
    (l.foldl (despawnStep s) acc).1 =
      { acc.1 with vis := (l.foldl (despawnStep s) acc).1.vis, mutTick := (l.foldl (despawnStep s) acc).1.mutTick } := by
  intro l
  induction l with
  | nil => intro acc; rfl
  | cons x xs ih =>
    intro acc
    exact ih (despawnStep s acc x)

theorem despawnPhase_rest (s : Server) (cl : Cli) :
    (despawnPhase s cl).1 = { cl with vis := (despawnPhase s cl).1.vis, mutTick := (despawnPhase s cl).1.mutTick } := by
  rw [despawnPhase_eq]
  exact congrArg (fun c : Cli => { c with vis := (drainPhase s (s.despawnBuf.foldl (despawnStep s) (cl, []))).1.vis,
                                          mutTick := (drainPhase s (s.despawnBuf.foldl (despawnStep s) (cl, []))).1.mutTick })
    (despawnFold_rest s s.despawnBuf (cl, []))

theorem despawnStep_cell (s : Server) (acc : Cli × List Nat) (e j : Nat) :
    cell (despawnStep s acc e).1 j = if j = e then Vis.removeDespawned s.white (cell acc.1 e) else cell acc.1 j :=
  cell_setCell acc.1 e j _

theorem despawnStep_out (s : Server) (acc : Cli × List Nat) (e j : Nat) :
    j ∈ (despawnStep s acc e).2 ↔ j ∈ acc.2 ∨ (j = e ∧ Vis.isVisible s.white (cell acc.1 e) = true) := by
  by_cases h : Vis.isVisible s.white (cell acc.1 e) = true <;> simp [despawnStep, h]

/-! What the loop reports, in two directions that do not meet. An entity can be in the list twice
(its marker removed and inserted again, then the entity despawned, all within one frame), and
`remove_despawned` at the first occurrence resets its cell. Under the blacklist policy the reset
cell is visible, so the second occurrence reports an entity the client could not see. -/

theorem despawnFold_out (s : Server) (e : Nat) (l : List Nat) : ∀ (acc : Cli × List Nat),
    e ∈ (l.foldl (despawnStep s) acc).2 → e ∈ acc.2 ∨ e ∈ l := by
  induction l with
  | nil => exact fun _ h => Or.inl h
  | cons x xs ih =>
    intro acc h
    rcases ih _ h with h | h
    · rcases (despawnStep_out s acc x e).mp h with h | ⟨rfl, _⟩
      · exact Or.inl h
      · exact Or.inr List.mem_cons_self
    · exact Or.inr (List.mem_cons_of_mem _ h)

theorem despawnFold_sends (s : Server) (e : Nat) (l : List Nat) : ∀ (acc : Cli × List Nat),
    e ∈ acc.2 ∨ (e ∈ l ∧ Vis.isVisible s.white (cell acc.1 e) = true) → e ∈ (l.foldl (despawnStep s) acc).2 := by
  induction l with
  | nil => exact fun _ h => h.elim id fun h => nomatch h.1
  | cons x xs ih =>
    intro acc h
    refine ih _ ?_
    rcases h with h | ⟨hm, hv⟩
    · exact Or.inl ((despawnStep_out s acc x e).mpr (Or.inl h))
    · by_cases hx : e = x
      · exact Or.inl ((despawnStep_out s acc x e).mpr (Or.inr ⟨hx, hx ▸ hv⟩))
      · exact Or.inr ⟨(List.mem_cons.mp hm).resolve_left hx, by rw [despawnStep_cell, if_neg hx]; exact hv⟩

theorem despawnPhase_sends (s : Server) (cl : Cli) (e : Nat) (hm : e ∈ s.despawnBuf)
    (hv : Vis.isVisible s.white (cell cl e) = true) : e ∈ (despawnPhase s cl).2 := by
  rw [despawnPhase_eq]
  exact List.mem_append_left _ (despawnFold_sends s e s.despawnBuf (cl, []) (Or.inr ⟨hm, hv⟩))

theorem drainLost_of_not_lost (white : Bool) (c0 : Vis.Cell) (h : Vis.lost white c0 = false) :
    Vis.drainLost white c0 = c0 := by
  cases white
  · show { c0 with added := false } = c0
    rw [← show c0.added = false from h]
  · show { c0 with removed := false } = c0
    rw [← show c0.removed = false from h]

def NoLost (white : Bool) (cl : Cli) : Prop := ∀ e c0, (e, c0) ∈ cl.vis → Vis.lost white c0 = false

theorem despawnPhase_idle (s : Server) (cl : Cli) (hd : s.despawnBuf = []) (hl : NoLost s.white cl) :
    despawnPhase s cl = (cl, []) := by
  have hf : (cl.vis.filter fun (x : Nat × Vis.Cell) => Vis.lost s.white x.2) = [] :=
    List.filter_eq_nil_iff.mpr fun x hx => by rw [hl x.1 x.2 hx]; exact Bool.false_ne_true
  have hm : (cl.vis.map fun (x : Nat × Vis.Cell) => (x.1, Vis.drainLost s.white x.2)) = cl.vis :=
    (List.map_congr_left fun x hx => by rw [drainLost_of_not_lost s.white x.2 (hl x.1 x.2 hx)]).trans (List.map_id' _)
  rw [despawnPhase_eq, hd]
  unfold drainPhase
  simp only [List.foldl_nil, hf, hm, List.map_nil, List.append_nil]

theorem mem_entityOuts (s : Server) (thisRun : Nat) (cl : Cli) (e : Nat) (o : EntOut) :
    (e, o) ∈ entityOuts s thisRun cl ↔
      ∃ ent m, (e, ent) ∈ s.world ∧ ent.marker = some m ∧ o = collectEntity s thisRun cl e ent m := by
  unfold entityOuts
  rw [List.mem_filterMap]
  constructor
  · rintro ⟨⟨e', ent⟩, hm, h⟩
    cases hmk : ent.marker with
    | none => simp only [hmk] at h; cases h
    | some m =>
      simp only [hmk, Option.some.injEq, Prod.mk.injEq] at h
      obtain ⟨rfl, rfl⟩ := h
      exact ⟨ent, m, hm, hmk, rfl⟩
  · rintro ⟨ent, m, hm, hmk, rfl⟩
    exact ⟨(e, ent), hm, by simp only [hmk]⟩

/-- `sel` is `EntOut.toUpdate` (the CHANGES section) or `EntOut.toMutate` (the mutate messages) -/
theorem mem_records (s : Server) (thisRun : Nat) (cl : Cli) (sel : EntOut → Option MsgEnt) (r : MsgEnt) :
    r ∈ (entityOuts s thisRun cl).filterMap (fun x => sel x.2) ↔
      ∃ e ent m, (e, ent) ∈ s.world ∧ ent.marker = some m ∧ sel (collectEntity s thisRun cl e ent m) = some r := by
  rw [List.mem_filterMap]
  constructor
  · rintro ⟨⟨e, o⟩, ho, hto⟩
    obtain ⟨ent, m, hw, hm, rfl⟩ := (mem_entityOuts s thisRun _ e o).mp ho
    exact ⟨e, ent, m, hw, hm, hto⟩
  · rintro ⟨e, ent, m, hw, hm, hto⟩
    exact ⟨(e, _), (mem_entityOuts s thisRun _ e _).mpr ⟨ent, m, hw, hm, rfl⟩, hto⟩

/-- entities have distinct identifiers, a record names its entity: every record for entity `e` is the
decision for `e` -/
theorem record_of_entity (s : Server) (hn : (s.world.map (·.1)).Nodup) (thisRun : Nat) (cl : Cli)
    (sel : EntOut → Option MsgEnt)
    (hent : ∀ e ent m r, sel (collectEntity s thisRun cl e ent m) = some r → r.ent = e)
    (e : Nat) (ent : SEnt) (mk : Nat) (hw : (e, ent) ∈ s.world) (hmk : ent.marker = some mk) (r : MsgEnt)
    (hr : r ∈ (entityOuts s thisRun cl).filterMap (fun x => sel x.2)) (he : r.ent = e) :
    sel (collectEntity s thisRun cl e ent mk) = some r := by
  obtain ⟨e', ent', mk', hw', hmk', hto⟩ := (mem_records s thisRun cl sel r).mp hr
  obtain rfl : e' = e := (hent e' ent' mk' r hto).symm.trans he
  obtain rfl := mem_unique _ hn e' ent ent' hw hw'
  obtain rfl : mk = mk' := Option.some.inj (hmk.symm.trans hmk')
  exact hto

/-- the client state after `collect_despawns` in a run -/
def runCl1 (s : Server) (cl : Cli) : Cli := (despawnPhase s { cl with mappings := [] }).1
/-- the DESPAWNS section of a run -/
def runDespawns (s : Server) (cl : Cli) : List Nat := (despawnPhase s { cl with mappings := [] }).2

/-- with nothing to despawn and nothing to report lost, `collect_despawns` only takes the mappings … -/
theorem runCl1_idle (s : Server) (cl : Cli) (hd : s.despawnBuf = []) (hl : NoLost s.white cl) :
    runCl1 s cl = { cl with mappings := [] } :=
  congrArg Prod.fst (despawnPhase_idle s { cl with mappings := [] } hd hl)

/-- … and the DESPAWNS section is empty -/
theorem runDespawns_idle (s : Server) (cl : Cli) (hd : s.despawnBuf = []) (hl : NoLost s.white cl) :
    runDespawns s cl = [] :=
  congrArg Prod.snd (despawnPhase_idle s { cl with mappings := [] } hd hl)
/-- the entities whose tick `collect_changes` sets in a run -/
def runBumped (s : Server) (thisRun : Nat) (cl : Cli) : List Nat :=
  ((entityOuts s thisRun (runCl1 s cl)).filter fun x => x.2.bump).map (·.1)
/-- the entities with a record in the CHANGES section of a run -/
def runChanged (s : Server) (thisRun : Nat) (cl : Cli) : List Nat :=
  ((entityOuts s thisRun (runCl1 s cl)).filterMap fun x => x.2.toUpdate).map (·.ent)

theorem runCl1_rest (s : Server) (cl : Cli) :
    runCl1 s cl = { cl with mappings := [], vis := (runCl1 s cl).vis, mutTick := (runCl1 s cl).mutTick } :=
  despawnPhase_rest s { cl with mappings := [] }

/-- `collect_despawns` only forgets ticks (of despawned entities, then of the lost ones) -/
theorem runCl1_mutTick_sub (s : Server) (cl : Cli) (j t : Nat) (h : aget (runCl1 s cl).mutTick j = some t) :
    aget cl.mutTick j = some t := by
  unfold runCl1 at h
  rw [despawnPhase_eq] at h
  have hdel : ∀ (mt : List (Nat × Nat)) (x : Nat), (aget mt j = some t → aget cl.mutTick j = some t) →
      aget (adel mt x) j = some t → aget cl.mutTick j = some t := by
    intro mt x ih h
    rw [aget_adel] at h
    split at h
    · cases h
    · exact ih h
  exact foldl_inv adel (fun mt => aget mt j = some t → aget cl.mutTick j = some t) hdel _ _
    (foldl_inv (despawnStep s) (fun acc => aget acc.1.mutTick j = some t → aget cl.mutTick j = some t)
      (fun acc x => hdel acc.1.mutTick x) s.despawnBuf ({ cl with mappings := [] }, []) id) h

/-- the update message a run assembles (it is sent unless it is empty) -/
def runUpdate (s : Server) (thisRun : Nat) (cl : Cli) : Update :=
  { tick := s.tick, mappings := cl.mappings, despawns := runDespawns s cl,
    removals := s.removalBuf.filter fun x => Vis.isVisible s.white (cell (runCl1 s cl) x.1),
    changes := (entityOuts s thisRun (runCl1 s cl)).filterMap fun x => x.2.toUpdate }

theorem runClient_eq (s : Server) (thisRun : Nat) (cl : Cli) :
    runClient s thisRun cl =
      ({ runCl1 s cl with
          mutTick := (runBumped s thisRun cl).foldl (fun mt e => aset mt e thisRun) (runCl1 s cl).mutTick,
          updateTick := if (runUpdate s thisRun cl).isEmpty then (runCl1 s cl).updateTick else s.tick },
       { update := if (runUpdate s thisRun cl).isEmpty then none else some (runUpdate s thisRun cl),
         mutEnts := (entityOuts s thisRun (runCl1 s cl)).filterMap fun x => x.2.toMutate }) := by
  by_cases h : (runUpdate s thisRun cl).isEmpty = true
  · rw [if_pos h, if_pos h]
    exact if_pos h
  · rw [if_neg h, if_neg h]
    exact if_neg h

theorem runClient_rest (s : Server) (thisRun : Nat) (cl : Cli) :
    (runClient s thisRun cl).1 =
      { cl with mappings := [], vis := (runClient s thisRun cl).1.vis, mutTick := (runClient s thisRun cl).1.mutTick,
                updateTick := (runClient s thisRun cl).1.updateTick } := by
  rw [runClient_eq]
  simp only
  rw [runCl1_rest]

theorem Update.isEmpty_iff (u : Update) :
    u.isEmpty = true ↔ u.mappings = [] ∧ u.despawns = [] ∧ u.removals = [] ∧ u.changes = [] := by
  unfold Update.isEmpty
  simp only [Bool.and_eq_true, List.isEmpty_iff, and_assoc]

theorem Update.despawns_of_isEmpty {u : Update} (h : u.isEmpty = true) : u.despawns = [] := ((Update.isEmpty_iff u).mp h).2.1
theorem Update.removals_of_isEmpty {u : Update} (h : u.isEmpty = true) : u.removals = [] := ((Update.isEmpty_iff u).mp h).2.2.1
theorem Update.changes_of_isEmpty {u : Update} (h : u.isEmpty = true) : u.changes = [] := ((Update.isEmpty_iff u).mp h).2.2.2

theorem runClient_update_some {s : Server} {thisRun : Nat} {cl : Cli} {u : Update}
    (h : (runClient s thisRun cl).2.update = some u) : u = runUpdate s thisRun cl := by
  rw [runClient_eq] at h
  simp only at h
  split at h
  · cases h
  · exact (Option.some.inj h).symm

theorem runClient_update_none {s : Server} {thisRun : Nat} {cl : Cli}
    (h : (runClient s thisRun cl).2.update = none) : (runUpdate s thisRun cl).isEmpty = true := by
  rw [runClient_eq] at h
  simp only at h
  split at h
  · assumption
  · cases h

theorem runClient_updateTick (s : Server) (thisRun : Nat) (cl : Cli) :
    (runClient s thisRun cl).1.updateTick =
      if (runUpdate s thisRun cl).isEmpty then cl.updateTick else s.tick := by
  rw [runClient_eq]
  dsimp only
  rw [runCl1_rest]

theorem runClient_update_eq (s : Server) (thisRun : Nat) (cl : Cli) :
    (runClient s thisRun cl).2.update =
      if (runUpdate s thisRun cl).isEmpty then none else some (runUpdate s thisRun cl) := by
  rw [runClient_eq]

theorem runClient_mutEnts (s : Server) (thisRun : Nat) (cl : Cli) :
    (runClient s thisRun cl).2.mutEnts = (entityOuts s thisRun (runCl1 s cl)).filterMap fun x => x.2.toMutate := by
  rw [runClient_eq]

theorem runClient_idle (s : Server) (thisRun : Nat) (cl : Cli)
    (hd : s.despawnBuf = []) (hr : s.removalBuf = []) (hm : cl.mappings = []) (hl : NoLost s.white cl)
    (hq : ∀ e ent m, (e, ent) ∈ s.world → ent.marker = some m → Quiet s cl e ent m) :
    runClient s thisRun cl = (cl, { update := none, mutEnts := [] }) := by
  have hcl : runCl1 s cl = cl := (runCl1_idle s cl hd hl).trans (by rw [← hm])
  have hds : runDespawns s cl = [] := runDespawns_idle s cl hd hl
  have houts : ∀ x ∈ entityOuts s thisRun cl, x.2 = {} := fun (e, o) hx => by
    obtain ⟨ent, m, hmem, hmk, rfl⟩ := (mem_entityOuts s thisRun cl e o).mp hx
    exact collect_quiet s thisRun cl e ent m (hq e ent m hmem hmk)
  have h1 : (entityOuts s thisRun cl).filterMap (fun x => x.2.toUpdate) = [] :=
    List.filterMap_eq_nil_iff.mpr fun x hx => by rw [houts x hx]
  have h2 : (entityOuts s thisRun cl).filterMap (fun x => x.2.toMutate) = [] :=
    List.filterMap_eq_nil_iff.mpr fun x hx => by rw [houts x hx]
  have h3 : (entityOuts s thisRun cl).filter (fun x => x.2.bump) = [] :=
    List.filter_eq_nil_iff.mpr fun x hx => by rw [houts x hx]; exact Bool.false_ne_true
  have hu : runUpdate s thisRun cl = { tick := s.tick } := by
    unfold runUpdate
    rw [hds, hcl, h1, hm, hr]
    rfl
  have hb : runBumped s thisRun cl = [] := by
    unfold runBumped
    rw [hcl, h3]
    rfl
  rw [runClient_eq, hu, hb, hcl, h2]
  rfl

theorem runClient_full_state (s : Server) (thisRun : Nat) (cl : Cli)
    (hd : s.despawnBuf = []) (hl : NoLost s.white cl) (hk : ∀ e, aget cl.mutTick e = none)
    (e : Nat) (ent : SEnt) (m : Nat) (hw : (e, ent) ∈ s.world) (hm : ent.marker = some m)
    (hv : visState s cl e ≠ .hidden) :
    ∃ u, (runClient s thisRun cl).2.update = some u ∧
      ({ ent := e, comps := (present s ent).map fun x => (x.1, x.2.2.val) } : MsgEnt) ∈ u.changes := by
  have hcl := runCl1_idle s cl hd hl
  have hch : ({ ent := e, comps := (present s ent).map fun x => (x.1, x.2.2.val) } : MsgEnt) ∈
      (runUpdate s thisRun cl).changes := by
    refine List.mem_filterMap.mpr ⟨(e, collectEntity s thisRun (runCl1 s cl) e ent m),
      (mem_entityOuts s thisRun _ e _).mpr ⟨ent, m, hw, hm, rfl⟩, ?_⟩
    rw [hcl, collect_unknown_whole s thisRun { cl with mappings := [] } e ent m hv (hk e)]
  have hne : ¬ (runUpdate s thisRun cl).isEmpty = true := fun h => by
    rw [Update.changes_of_isEmpty h] at hch
    cases hch
  rw [runClient_eq]
  exact ⟨_, if_neg hne, hch⟩

/-- what `send_replication` hands to the transport -/
theorem runAll_outs (s : Server) :
    s.runAll.2 = s.clients.filterMap fun x =>
      if x.2.authorized then some (x.1, (runClient s (s.now + 1) x.2).2) else none := by
  unfold Server.runAll
  dsimp only
  rw [List.filterMap_map]
  refine congrArg (List.filterMap · s.clients) (funext fun x => ?_)
  simp only [Function.comp]
  split <;> rfl

theorem runAll_fst (p : Server) :
    p.runAll.1 =
      { p with clients := p.clients.map fun x => (x.1, if x.2.authorized then (runClient p (p.now + 1) x.2).1 else x.2) } := by
  unfold Server.runAll
  simp only [List.map_map]
  exact congrArg (fun cs => ({ p with clients := cs } : Server))
    (List.map_congr_left fun x _ => by simp only [Function.comp]; split <;> rfl)

theorem mem_runAll_outs (p : Server) (c : Nat) (o : ClientOut) :
    (c, o) ∈ p.runAll.2 ↔ ∃ cl, (c, cl) ∈ p.clients ∧ cl.authorized = true ∧ o = (runClient p (p.now + 1) cl).2 := by
  rw [runAll_outs, List.mem_filterMap]
  constructor
  · rintro ⟨x, hx, h⟩
    split at h
    · next ha =>
      cases h
      exact ⟨x.2, hx, ha, rfl⟩
    · cases h
  · rintro ⟨cl, hm, ha, rfl⟩
    exact ⟨(c, cl), hm, if_pos ha⟩

end Replicon.Srv
