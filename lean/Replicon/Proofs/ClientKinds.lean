import Replicon.Proofs.KindsSession
/-
The client half of "which components": what `apply_update_message` does to the set of component
kinds the client has for a server entity is `stepKinds` (a despawn forgets them, a removal record
removes its kinds, a change record adds its kinds).
-/
namespace Replicon.Cli
open Replicon Replicon.Srv

def kindsOn (c : Client) (se : Nat) : List Nat :=
  match aget c.s2c se with
  | some ce => (match aget c.world ce with
    | some ent => ent.comps.map (·.1)
    | none => [])
  | none => []

/-- the form every proof uses `kindsOn` in -/
theorem kindsOn_eq_view (c : Client) (se : Nat) : kindsOn c se = (viewOf c se).comps.map (·.1) := by
  unfold kindsOn viewOf
  cases aget c.s2c se with
  | none => rfl
  | some ce =>
    show (match aget c.world ce with
      | some ent => ent.comps.map (·.1)
      | none => []) = ((aget c.world ce).getD {}).comps.map (·.1)
    cases aget c.world ce <;> rfl

def KeepsK (c c' : Client) : Prop := Keeps c c' ∧ ∀ se k, k ∈ kindsOn c' se ↔ k ∈ kindsOn c se

theorem KeepsK.trans {a b c : Client} (h1 : KeepsK a b) (h2 : KeepsK b c) : KeepsK a c :=
  ⟨Keeps.trans h1.1 h2.1, fun se k => (h2.2 se k).trans (h1.2 se k)⟩

theorem writeComps_kinds (ce : Nat) (comps : List (Nat × Nat)) : ∀ (c : Client), WF c → (aget c.world ce).isSome = true →
    ∀ se k, k ∈ kindsOn (writeComps c ce comps) se ↔
      k ∈ kindsOn c se ∨ (aget c.s2c se = some ce ∧ k ∈ comps.map (·.1)) := by
  intro c wf hal se k
  obtain ⟨ws, hws, v⟩ := viewOf_writeComps ce comps c wf hal
  rw [kindsOn_eq_view, kindsOn_eq_view, v se, ← Written.keys c ws comps hws]
  split
  · rename_i hm
    rw [mem_keys_foldl_aset]
    exact ⟨fun h => h.elim Or.inl (fun h => Or.inr ⟨hm, h⟩), fun h => h.elim Or.inl (fun h => Or.inr h.2)⟩
  · rename_i hm
    exact ⟨Or.inl, fun h => h.elim id (fun h => absurd h.1 hm)⟩

theorem applyChange_kinds (tick : Nat) (c : Client) (m : MsgEnt) (wf : WF c) :
    ∃ c', applyChange tick c m = some c' ∧ WF c' ∧
      ∀ se k, k ∈ kindsOn c' se ↔ k ∈ kindsOn c se ∨ (se = m.ent ∧ k ∈ m.comps.map (·.1)) := by
  obtain ⟨c', h1, m1, ws, hws, v⟩ := applyChange_effect tick c m wf
  refine ⟨c', h1, m1.wf, fun se k => ?_⟩
  rw [kindsOn_eq_view, kindsOn_eq_view, v se, ← Written.keys c ws m.comps hws]
  split
  · rename_i he
    dsimp only
    rw [mem_keys_foldl_aset, he]
    exact ⟨fun h => h.elim Or.inl (fun h => Or.inr ⟨rfl, h⟩), fun h => h.elim Or.inl (fun h => Or.inr h.2)⟩
  · rename_i he
    exact ⟨Or.inl, fun h => h.elim id (fun h => absurd h.1 he)⟩

theorem applyRemoval_kinds (tick : Nat) (c : Client) (r : Nat × List Nat) (wf : WF c) :
    ∃ c', applyRemoval tick c r = some c' ∧ WF c' ∧
      ∀ se k, k ∈ kindsOn c' se ↔ k ∈ kindsOn c se ∧ (se = r.1 → k ∉ r.2) := by
  obtain ⟨c', h1, m1, v⟩ := applyRemoval_effect tick c r wf
  refine ⟨c', h1, m1.wf, fun se k => ?_⟩
  rw [kindsOn_eq_view, kindsOn_eq_view, v se]
  split
  · rename_i he
    show k ∈ ((viewOf c se).comps.filter ((fun j => !r.2.contains j) ∘ (·.1))).map (·.1) ↔ _
    rw [← List.filter_map, List.mem_filter_not_contains]
    exact and_congr_right fun _ => ⟨fun h _ => h, fun h => h he⟩
  · rename_i he
    exact ⟨fun h => ⟨h, fun h' => absurd h' he⟩, fun h => h.1⟩

theorem applyDespawn_kinds (c : Client) (se0 : Nat) (wf : WF c) (se k : Nat) :
    k ∈ kindsOn (applyDespawn c se0) se ↔ k ∈ kindsOn c se ∧ se ≠ se0 := by
  rw [kindsOn_eq_view, kindsOn_eq_view, viewOf_applyDespawn c se0 wf]
  exact emptied_iff (k ∈ ·.comps.map (·.1)) (fun h => nomatch h) _

theorem applyUpdate_kinds (c : Client) (u : Update) (wf : WF c) (hm : u.mappings = []) (se k : Nat) :
    k ∈ kindsOn (applyUpdate c u) se ↔ k ∈ stepKinds (kindsOn c se) u se := by
  -- CHANGES adds the kinds of the records for `se`, REMOVALS removes those of its records for `se`
  rw [applyUpdate_eq c u wf hm, foldOpt_or (applyChange u.tick) WF (k ∈ kindsOn · se) (fun m => se = m.ent ∧ k ∈ m.comps.map (·.1)) (fun c m w => by
    obtain ⟨c', e, w', h⟩ := applyChange_kinds u.tick c m w
    exact ⟨c', e, w', h se k⟩) u.changes _ (wf_afterRemovals c u wf)]
  unfold afterRemovals
  rw [foldOpt_and (applyRemoval u.tick) WF (k ∈ kindsOn · se) (fun r => se = r.1 → k ∉ r.2) (fun c r w => by
    obtain ⟨c', e, w', h⟩ := applyRemoval_kinds u.tick c r w
    exact ⟨c', e, w', h se k⟩) u.removals _ (wf_afterDespawns c u wf)]
  have hd : k ∈ kindsOn (afterDespawns c u) se ↔ se ∉ u.despawns ∧ k ∈ kindsOn c se := by
    rw [kindsOn_eq_view, kindsOn_eq_view, viewOf_afterDespawns c u wf se, and_comm]
    exact emptied_iff (k ∈ ·.comps.map (·.1)) (fun h => nomatch h) _
  rw [hd, mem_stepKinds, mem_remKinds, mem_chgKinds]
  refine or_congr (and_congr_right fun _ => ⟨fun h ⟨ks, hks, hk⟩ => h (se, ks) hks rfl hk, fun h r hr he hk => h ⟨r.2, he ▸ hr, hk⟩⟩)
    ⟨fun ⟨m, hm, he, hk⟩ => ⟨m, hm, he.symm, hk⟩, fun ⟨m, hm, he, hk⟩ => ⟨m, hm, he.symm, hk⟩⟩

/-- `S`: any list with the kinds the client starts with -/
theorem replay_kinds (se : Nat) : ∀ (l : List Update) (c : Client) (S : List Nat), WF c → Joint.logOkFrom c l →
    (∀ j, j ∈ kindsOn c se ↔ j ∈ S) →
    ∀ k, k ∈ kindsOn (l.foldl applyUpdate c) se ↔ k ∈ l.foldl (fun S u => stepKinds S u se) S := by
  intro l
  induction l with
  | nil => exact fun c S _ _ h => h
  | cons u us ih =>
    rintro c S wf ⟨ok, okrest⟩ h
    rw [List.foldl_cons, List.foldl_cons]
    refine ih _ _ (applyUpdate_wf c u wf ok.mappings) okrest fun j => ?_
    rw [applyUpdate_kinds c u wf ok.mappings se j, mem_stepKinds, mem_stepKinds, h j]

end Replicon.Cli

namespace Replicon.Joint
open Replicon Replicon.Srv Replicon.Cli

theorem clientKinds_of_ksess (st : St) (log : Log) (invp : KSess st log) (ticked : Bool) (ms : Nat)
    (parts : Nat → List (List Nat))
    (hr : st.srv.running = true) (hc : (preRun st.srv ticked ms).tickChanged = true) :
    ∀ x ∈ (step st (.frame ticked ms parts)).1.srv.clients, x.2.authorized = true →
      ∀ e, e ∈ keys x.2 → ∀ ent, (e, ent) ∈ (step st (.frame ticked ms parts)).1.srv.world →
        ∀ k, k ∈ kindsOn (replay (logStep st log (.frame ticked ms parts) x.1)) e ↔
          k ∈ presentKinds (step st (.frame ticked ms parts)).1.srv ent := by
  intro x hx ha e hke ent hwld k
  rw [← kinds_of_ksess st log invp ticked ms parts hr hc x hx ha e hke ent hwld k]
  have inv' := sess_step st log (.frame ticked ms parts) invp.sess (legalOp2_frame ..)
  exact replay_kinds e _ {} [] wf_fresh (inv'.cli x hx).ok (fun _ => Iff.rfl) k

/-- **Which components, over ALL histories, across both models.**  After any history (entity
identifiers not reused, a stopped server sees a frame before a restart, no pre-spawn mappings)
that ends with a frame in which `send_replication` ran: for every authorized client and every
entity the server tracks for it (exactly the replicated entities visible to the client,
`session_view`), the client model fed the session's update messages in order has, on its entity
for that server entity, exactly the replicated component kinds the server entity carries. -/
theorem session_components (s0 : Server) (hw : s0.world = []) (hc0 : s0.clients = []) (hb : s0.removalBuf = [])
    (ht : s0.lastRun < s0.now)
    (ops : List Op) (ticked : Bool) (ms : Nat) (parts : Nat → List (List Nat))
    (hl : Legal2 { srv := s0 } (ops ++ [.frame ticked ms parts]))
    (hr : (run { srv := s0 } ops).1.srv.running = true)
    (hc : (preRun (run { srv := s0 } ops).1.srv ticked ms).tickChanged = true) :
    ∀ x ∈ (run { srv := s0 } (ops ++ [.frame ticked ms parts])).1.srv.clients, x.2.authorized = true →
      ∀ e, e ∈ keys x.2 → ∀ ent, (e, ent) ∈ (run { srv := s0 } (ops ++ [.frame ticked ms parts])).1.srv.world →
        ∀ k, k ∈ kindsOn (replay ((runLog { srv := s0 } (fun _ => []) (ops ++ [.frame ticked ms parts])).2 x.1)) e ↔
          k ∈ presentKinds (run { srv := s0 } (ops ++ [.frame ticked ms parts])).1.srv ent := by
  rw [run_append, runLog_snd_append, runLog_fst]
  exact clientKinds_of_ksess _ _ (ksess_history s0 hw hc0 hb ht ops (legal2_prefix ops _ _ hl).1) ticked ms parts hr hc

end Replicon.Joint
