import Replicon.Model.HistorySpec
/-
Ticks as the code sees them are residues modulo 2^32 of absolute ticks.  This file is the only
place where the residues are reasoned about: every later proof speaks of absolute ticks.
-/
namespace Replicon

theorem tickSub_mod_right (a b : Nat) : tickSub a (b % 4294967296) = tickSub a b := by
  unfold tickSub; rw [Nat.mod_mod]

theorem tickSub_mod (a b : Nat) (hba : b ≤ a) :
    tickSub (a % 4294967296) b = (a - b) % 4294967296 := by
  unfold tickSub; omega

theorem tickSub_abs (a b : Nat) (hba : b ≤ a) (hd : a < b + 4294967296) :
    tickSub (a % 4294967296) (b % 4294967296) = a - b := by
  rw [tickSub_mod_right, tickSub_mod a b hba, Nat.mod_eq_of_lt (by omega)]

theorem Near.symm {a b : Nat} (h : Near a b) : Near b a := And.symm h

theorem tickSub_near {a b : Nat} (near : Near a b) (hba : b ≤ a) :
    tickSub (a % 4294967296) (b % 4294967296) = a - b :=
  tickSub_abs a b hba (by unfold Near at near; omega)

theorem tickSub_within {lo x y hi : Nat} (near : Near lo hi) (h1 : lo ≤ x) (h2 : x ≤ y) (h3 : y ≤ hi) :
    tickSub (y % 4294967296) (x % 4294967296) = y - x :=
  tickSub_abs y x h2 (by unfold Near at near; omega)

theorem tickCmp_abs (a b : Nat) (h : Near a b) :
    tickCmp (a % 4294967296) (b % 4294967296) = compare a b := by
  obtain ⟨h1, h2⟩ := h
  unfold tickCmp Consts.tickHalf
  rcases Nat.lt_trichotomy a b with hlt | heq | hgt
  · -- the difference wraps: it is `a + 2^32 - b` as the code computes it, more than half the range
    have hd : a + 4294967296 - b > 2147483647 := by omega
    rw [Nat.compare_eq_lt.mpr hlt, ← Nat.add_mod_right a,
      tickSub_abs _ b (Nat.le_of_lt (Nat.lt_trans h2 (Nat.add_lt_add_left (by decide) a)))
        (Nat.add_lt_add_right hlt _)]
    show (if _ then _ else _) = _
    rw [if_neg (Nat.ne_of_gt (Nat.lt_trans (by decide) hd)), if_pos hd]
  · rw [Nat.compare_eq_eq.mpr heq, heq, tickSub_abs b b (Nat.le_refl b) (Nat.lt_add_of_pos_right (by decide)),
      Nat.sub_self]
    rfl
  · have hd : ¬ a - b > 2147483647 := by omega
    rw [Nat.compare_eq_gt.mpr hgt,
      tickSub_abs a b (Nat.le_of_lt hgt) (Nat.lt_trans h1 (Nat.add_lt_add_left (by decide) b))]
    show (if _ then _ else _) = _
    rw [if_neg (Nat.sub_ne_zero_of_lt hgt), if_neg hd]

theorem tickGt_abs (a b : Nat) (h : Near a b) :
    tickGt (a % 4294967296) (b % 4294967296) = decide (a > b) := by
  unfold tickGt
  rw [tickCmp_abs a b h, Bool.eq_iff_iff, beq_iff_eq, Nat.compare_eq_gt, decide_eq_true_iff]

theorem tickLt_abs (a b : Nat) (h : Near a b) :
    tickLt (a % 4294967296) (b % 4294967296) = decide (a < b) := by
  unfold tickLt
  rw [tickCmp_abs a b h, Bool.eq_iff_iff, beq_iff_eq, Nat.compare_eq_lt, decide_eq_true_iff]

theorem tickLe_abs (a b : Nat) (h : Near a b) :
    tickLe (a % 4294967296) (b % 4294967296) = decide (a ≤ b) := by
  unfold tickLe
  rw [tickCmp_abs a b h, Bool.eq_iff_iff, bne_iff_ne, Nat.compare_ne_gt, decide_eq_true_iff]

theorem tickGe_abs (a b : Nat) (h : Near a b) :
    tickGe (a % 4294967296) (b % 4294967296) = decide (a ≥ b) := by
  unfold tickGe
  rw [tickCmp_abs a b h, Bool.eq_iff_iff, bne_iff_ne, Nat.compare_ne_lt, decide_eq_true_iff]

/-- `min` of two ticks as the range queries compute it. -/
theorem tickMin_abs {b l : Nat} (near : Near b l) :
    (if tickLt (b % 4294967296) (l % 4294967296) = true then b % 4294967296 else l % 4294967296)
      = min b l % 4294967296 := by
  rw [tickLt_abs b l near]
  by_cases hb : b < l
  · rw [decide_eq_true hb, if_pos rfl, Nat.min_eq_left (Nat.le_of_lt hb)]
  · rw [decide_eq_false hb, if_neg Bool.false_ne_true, Nat.min_eq_right (Nat.le_of_not_lt hb)]

/-- "`a` is `w` or more ticks behind `l`" as the range queries test it; `l - w` may wrap below 0. -/
theorem tickLe_window {a l w : Nat} (near : Near a l) (hal : a ≤ l) (hw' : w < 2147483648) :
    tickLe (a % 4294967296) (tickSub (l % 4294967296) w) = decide (a + w ≤ l) := by
  by_cases hw : w ≤ l
  · rw [tickSub_mod l w hw, tickLe_abs a (l - w) (by unfold Near at near ⊢; omega)]
    exact decide_eq_decide.mpr (by omega)
  · -- the window starts before tick 0: compare both ticks one lap up
    rw [← Nat.add_mod_right l, tickSub_mod _ w (by omega), ← Nat.add_mod_right a,
      tickLe_abs _ (l + 4294967296 - w) (by unfold Near at near ⊢; omega)]
    exact decide_eq_decide.mpr (by omega)

end Replicon
