import Replicon.Proofs.Window
/-
`ServerMutateTicks` (a ring of 64 slots and the last tick, seen modulo 2^32) refines the log of
`confirm` calls `CountSpec`: `SMTInv` is kept by every call that cannot trip a debug assertion,
and the queries answer as the log does.
-/
namespace Replicon
open Window

namespace CountSpec

theorem count_confirm (sp : CountSpec) (t n q : Nat) :
    (sp.confirm t n).count q = if t = q then n else sp.count q := by
  unfold CountSpec.count CountSpec.confirm
  rw [List.find?_cons]
  by_cases h : t = q
  · rw [if_pos h, show decide ((t, n).1 = q) = true from decide_eq_true h]
  · rw [if_neg h, show decide ((t, n).1 = q) = false from decide_eq_false h]

theorem received_confirm (sp : CountSpec) (t n q : Nat) :
    (sp.confirm t n).received q = if t = q then sp.received q + 1 else sp.received q := by
  unfold CountSpec.received CountSpec.confirm
  rw [List.filter_cons]
  by_cases h : t = q
  · rw [if_pos h, if_pos (show decide ((t, n).1 = q) = true from decide_eq_true h), List.length_cons]
  · rw [if_neg h, if_neg (show ¬ decide ((t, n).1 = q) = true from fun hd => h (of_decide_eq_true hd))]

theorem count_of_no_calls (sp : CountSpec) (q : Nat) (h : ∀ c ∈ sp.calls, c.1 ≠ q) : sp.count q = 0 := by
  unfold CountSpec.count
  have : sp.calls.find? (fun c => decide (c.1 = q)) = none := by
    rw [List.find?_eq_none]
    intro c hc
    simp [h c hc]
  rw [this]

theorem received_of_no_calls (sp : CountSpec) (q : Nat) (h : ∀ c ∈ sp.calls, c.1 ≠ q) : sp.received q = 0 := by
  unfold CountSpec.received
  have : sp.calls.filter (fun c => decide (c.1 = q)) = [] := by
    rw [List.filter_eq_nil_iff]
    intro c hc
    simp [h c hc]
  rw [this]; rfl

/-- What the log says about tick `q`, in the form the ring stores it. -/
def record (sp : CountSpec) (q : Nat) : TickMessages := { count := sp.count q, received := sp.received q }

theorem record_confirm_ne (sp : CountSpec) (t n q : Nat) (h : q ≠ t) :
    (sp.confirm t n).record q = sp.record q := by
  unfold record
  rw [count_confirm, received_confirm, if_neg (Ne.symm h), if_neg (Ne.symm h)]

theorem record_blank (sp : CountSpec) (hle : ∀ c ∈ sp.calls, c.1 ≤ sp.last) (q : Nat) (hq : sp.last < q) :
    sp.record q = TickMessages.empty := by
  have : ∀ c ∈ sp.calls, c.1 ≠ q := fun c hc h => Nat.not_le.mpr hq (h ▸ hle c hc)
  unfold record
  rw [count_of_no_calls sp q this, received_of_no_calls sp q this]
  rfl

/-- A well-formed call does to the slot of its tick what `confirm` does to the log. -/
theorem record_confirm (sp : CountSpec) (t n : Nat) (hn : n ≠ 0)
    (hok : (sp.count t = 0 ∨ sp.count t = n) ∧ sp.received t < n) :
    (sp.record t).confirm n = .ok ((sp.confirm t n).record t, (sp.confirm t n).complete t) := by
  have hr : (sp.confirm t n).record t = { count := n, received := sp.received t + 1 } := by
    unfold record
    rw [count_confirm, received_confirm, if_pos rfl, if_pos rfl]
  have hc : (sp.confirm t n).complete t = ((sp.confirm t n).record t).allReceived := rfl
  rw [hc, hr]
  unfold TickMessages.confirm
  rw [if_neg hn]
  have : (!(decide ((sp.record t).count = 0) || decide ((sp.record t).count = n))) = false := by
    rcases hok.1 with hc | hc <;> simp [record, hc]
  rw [this, if_neg Bool.false_ne_true]
  exact if_neg (Nat.not_lt.mpr hok.2)

end CountSpec

/-- What slot `i` of the ring must hold. -/
def slotOf (sp : CountSpec) (i : Nat) : TickMessages :=
  if i ≤ sp.last then { count := sp.count (sp.last - i), received := sp.received (sp.last - i) }
  else TickMessages.empty

theorem slotOf_eq_cell (sp : CountSpec) (i : Nat) :
    slotOf sp i = cell sp.record TickMessages.empty sp.last i := rfl

/-- The ring `s` represents the confirmation log `sp`. -/
def SMTInv (s : MutateTicks) (sp : CountSpec) : Prop :=
  s.last = sp.last % 4294967296 ∧ s.ticks.length = 64 ∧ (∀ c ∈ sp.calls, c.1 ≤ sp.last) ∧
  ∀ i, i < 64 → s.ticks[i]? = some (slotOf sp i)

theorem SMTInv.last {s : MutateTicks} {sp : CountSpec} (inv : SMTInv s sp) : s.last = sp.last % 4294967296 := inv.1

theorem SMTInv.length {s : MutateTicks} {sp : CountSpec} (inv : SMTInv s sp) : s.ticks.length = 64 := inv.2.1

theorem SMTInv.le {s : MutateTicks} {sp : CountSpec} (inv : SMTInv s sp) : ∀ c ∈ sp.calls, c.1 ≤ sp.last := inv.2.2.1

theorem SMTInv.slot {s : MutateTicks} {sp : CountSpec} (inv : SMTInv s sp) {i : Nat} (hi : i < 64) :
    s.ticks[i]? = some (slotOf sp i) := inv.2.2.2 i hi

theorem SMTInv.intro {s : MutateTicks} {sp : CountSpec} (last : s.last = sp.last % 4294967296)
    (length : s.ticks.length = 64) (le : ∀ c ∈ sp.calls, c.1 ≤ sp.last)
    (slot : ∀ i, i < 64 → s.ticks[i]? = some (slotOf sp i)) : SMTInv s sp :=
  ⟨last, length, le, slot⟩

/-- A call that cannot trip the implementation's debug assertions; the driver tests it as
`CountSpec.callOk` (`callOk_iff`). -/
def CallOk (sp : CountSpec) (t n : Nat) : Prop :=
  n ≠ 0 ∧ (t + 64 ≤ sp.last ∨ ((sp.count t = 0 ∨ sp.count t = n) ∧ sp.received t < n))

theorem callOk_iff (sp : CountSpec) (t n : Nat) : sp.callOk t n = true ↔ CallOk sp t n := by
  simp only [CountSpec.callOk, CallOk, Bool.and_eq_true, Bool.or_eq_true, bne_iff_ne, beq_iff_eq, decide_eq_true_eq, ne_eq]

/-- The ring after the tick advanced by `d`: `d` blank slots in front of the old ones. -/
theorem ring_advance (l : List TickMessages) (d : Nat) (hl : l.length = 64) :
    (if d ≥ l.length then List.replicate MutateTicks.slots TickMessages.empty else MutateTicks.rotate l d).length = 64 ∧
    ∀ i, i < 64 →
      (if d ≥ l.length then List.replicate MutateTicks.slots TickMessages.empty else MutateTicks.rotate l d)[i]?
        = if i < d then some TickMessages.empty else l[i - d]? := by
  by_cases hd : d ≥ l.length
  · rw [if_pos hd]
    refine ⟨List.length_replicate, fun i hi => ?_⟩
    rw [List.getElem?_replicate, if_pos (show i < MutateTicks.slots from hi),
      if_pos (Nat.lt_of_lt_of_le hi (hl ▸ hd))]
  · have hd' : d ≤ 64 := Nat.le_of_lt (hl ▸ Nat.lt_of_not_le hd)
    rw [if_neg hd]
    unfold MutateTicks.rotate
    rw [hl, Nat.min_eq_left hd']
    refine ⟨?_, fun i hi => ?_⟩
    · rw [List.length_append, List.length_replicate, List.length_take, hl, Nat.min_eq_left (Nat.sub_le 64 d),
        Nat.add_sub_cancel' hd']
    · by_cases h : i < d
      · rw [if_pos h, List.getElem?_append_left (List.length_replicate ▸ h), List.getElem?_replicate, if_pos h]
      · have hdi : d ≤ i := Nat.le_of_not_lt h
        rw [if_neg h, List.getElem?_append_right (List.length_replicate ▸ hdi), List.length_replicate,
          List.getElem?_take, if_pos (Nat.sub_lt_sub_right hdi hi)]

theorem smt_confirm (s : MutateTicks) (sp : CountSpec) (t n : Nat) (inv : SMTInv s sp)
    (near : Near t sp.last) (ok : CallOk sp t n) :
    ∃ s' r, s.confirm (t % 4294967296) n = .ok (s', r) ∧ SMTInv s' (sp.confirm t n) ∧
      r = (decide (sp.last < t + 64) && (sp.confirm t n).complete t) := by
  have hl := inv.last
  have hlen := inv.length
  have hle := inv.le
  have hslots : ∀ i, i < 64 → s.ticks[i]? = some (slotOf sp i) := fun i hi => inv.slot hi
  have hle' : ∀ c ∈ (sp.confirm t n).calls, c.1 ≤ (sp.confirm t n).last :=
    List.forall_mem_cons.mpr
      ⟨Nat.le_max_right _ _, fun c hc => Nat.le_trans (hle c hc) (Nat.le_max_left _ _)⟩
  -- while its tick is in the window, a call updates the slot as it updates the log
  have hrec : sp.last < t + 64 → _ := fun h =>
    sp.record_confirm t n ok.1 (ok.2.resolve_left (Nat.not_le.mpr h))
  unfold MutateTicks.confirm
  rw [if_neg (show ¬ s.ticks.length ≠ MutateTicks.slots from not_not_intro hlen), hl, tickGt_abs t sp.last near]
  by_cases hgt : t > sp.last
  · have hlast : (sp.confirm t n).last = t := Nat.max_eq_right (Nat.le_of_lt hgt)
    rw [decide_eq_true hgt, if_pos rfl, tickSub_near near (Nat.le_of_lt hgt)]
    dsimp only
    obtain ⟨hntlen, hnew⟩ := ring_advance s.ticks (t - sp.last) hlen
    generalize (if t - sp.last ≥ s.ticks.length then List.replicate MutateTicks.slots TickMessages.empty
      else MutateTicks.rotate s.ticks (t - sp.last)) = nt at hntlen hnew
    match nt, hntlen, hnew with
    | m :: rest, hntlen, hnew =>
      have hm : m = sp.record t := by
        have := hnew 0 (by decide)
        rw [if_pos (Nat.sub_pos_of_lt hgt)] at this
        rw [sp.record_blank hle t hgt]
        exact Option.some.inj this
      dsimp only
      rw [hm, hrec (Nat.lt_add_right 64 hgt)]
      refine ⟨_, _, rfl, SMTInv.intro (congrArg (· % 4294967296) hlast.symm) hntlen hle' fun i hi => ?_,
        by rw [decide_eq_true (Nat.lt_add_right 64 hgt), Bool.true_and]⟩
      rw [slotOf_eq_cell, hlast]
      match i with
      | 0 => exact congrArg some (cell_of_add (G := (sp.confirm t n).record) (Nat.add_zero t)).symm
      | j + 1 =>
        rw [cell_advance (sp.record_confirm_ne t n) (sp.record_blank hle) hgt (j + 1) (Nat.succ_ne_zero j)]
        show (m :: rest)[j + 1]? = _
        rw [hnew (j + 1) hi]
        by_cases hd : j + 1 < t - sp.last
        · rw [if_pos hd, if_pos hd]
        · rw [if_neg hd, if_neg hd, hslots _ (Nat.lt_of_le_of_lt (Nat.sub_le _ _) hi), slotOf_eq_cell]
  · have hts : t ≤ sp.last := Nat.le_of_not_lt hgt
    have hlast : (sp.confirm t n).last = sp.last := Nat.max_eq_left hts
    have hl' : s.last = (sp.confirm t n).last % 4294967296 := hl.trans (congrArg (· % 4294967296) hlast.symm)
    have hcell : ∀ i, slotOf (sp.confirm t n) i
        = if i = sp.last - t then (sp.confirm t n).record t else slotOf sp i :=
      fun i => by rw [slotOf_eq_cell, hlast, cell_update (sp.record_confirm_ne t n) hts i, slotOf_eq_cell]
    rw [decide_eq_false hgt, if_neg Bool.false_ne_true, tickSub_near near.symm hts]
    dsimp only
    by_cases hin : sp.last < t + 64
    · have hw : sp.last - t < 64 := Nat.sub_lt_left_of_lt_add hts hin
      rw [hslots _ hw, slotOf_eq_cell, cell_of_add (Nat.add_sub_cancel' hts)]
      dsimp only
      rw [hrec hin]
      refine ⟨_, _, rfl, SMTInv.intro (congrArg (· % 4294967296) hlast.symm) ((List.length_set ..).trans hlen) hle' fun i hi => ?_,
        by rw [decide_eq_true hin, Bool.true_and]⟩
      show (s.ticks.set (sp.last - t) _)[i]? = _
      rw [hcell]
      by_cases hid : i = sp.last - t
      · rw [if_pos hid, hid, List.getElem?_set_self (hlen ▸ hw)]
      · rw [if_neg hid, List.getElem?_set_ne (Ne.symm hid), hslots i hi]
    · have hw : 64 ≤ sp.last - t := Nat.le_sub_of_add_le (Nat.add_comm t 64 ▸ Nat.le_of_not_lt hin)
      rw [List.getElem?_eq_none_iff.mpr (hlen ▸ hw)]
      refine ⟨s, false, rfl, SMTInv.intro hl' hlen hle' fun i hi => ?_,
        by rw [decide_eq_false hin, Bool.false_and]⟩
      rw [hcell, if_neg (Nat.ne_of_lt (Nat.lt_of_lt_of_le hi hw)), hslots i hi]

theorem CountSpec.contains_eq_has (sp : CountSpec) (q : Nat) :
    sp.contains q = has sp.last sp.complete q := rfl

theorem SMTInv.view {s : MutateTicks} {sp : CountSpec} (inv : SMTInv s sp) (q i : Nat) (hq : q + i = sp.last)
    (hi : i < 64) : s.ticks[i]?.any TickMessages.allReceived = sp.complete q := by
  rw [inv.slot hi, slotOf_eq_cell, cell_of_add hq]
  rfl

theorem smt_contains (s : MutateTicks) (sp : CountSpec) (q : Nat) (inv : SMTInv s sp)
    (near : Near q sp.last) : s.contains (q % 4294967296) = sp.contains q := by
  unfold MutateTicks.contains
  rw [inv.last, tickGt_abs q sp.last near, CountSpec.contains_eq_has]
  by_cases hgt : q > sp.last
  · rw [decide_eq_true hgt, if_pos rfl]
    exact (has_of_gt hgt).symm
  · have hle : q ≤ sp.last := Nat.le_of_not_lt hgt
    rw [decide_eq_false hgt, if_neg Bool.false_ne_true, tickSub_near near.symm hle, has_of_le inv.view hle]
    by_cases hw : sp.last - q ≥ 64
    · rw [List.getElem?_eq_none_iff.mpr (inv.length ▸ hw), decide_eq_true hw]
      rfl
    · rw [inv.slot (Nat.lt_of_not_le hw), decide_eq_false hw]
      rfl

theorem any_take_drop (l : List TickMessages) (lo hi : Nat) (p : TickMessages → Bool) :
    ((l.take (hi + 1)).drop lo).any p = true ↔ ∃ i, lo ≤ i ∧ i ≤ hi ∧ l[i]?.any p = true := by
  rw [List.any_eq_true]
  constructor
  · rintro ⟨m, hm, hp⟩
    obtain ⟨k, hk⟩ := List.mem_iff_getElem?.mp hm
    rw [List.getElem?_drop, List.getElem?_take] at hk
    by_cases hlt : lo + k < hi + 1
    · rw [if_pos hlt] at hk
      exact ⟨lo + k, by omega, by omega, by rw [hk]; exact hp⟩
    · rw [if_neg hlt] at hk; cases hk
  · rintro ⟨i, h1, h2, h3⟩
    obtain ⟨m, h3, hp⟩ := (Option.any_eq_true _ _).mp h3
    refine ⟨m, List.mem_iff_getElem?.mpr ⟨i - lo, ?_⟩, hp⟩
    rw [List.getElem?_drop, List.getElem?_take, if_pos (by omega), Nat.add_sub_cancel' h1]
    exact h3

theorem smt_contains_any_of_inv (s : MutateTicks) (sp : CountSpec) (a b : Nat) (inv : SMTInv s sp)
    (hab : a ≤ b) (nab : Near a b) (na : Near a sp.last) (nb : Near b sp.last) :
    ∃ v, s.containsAny (a % 4294967296) (b % 4294967296) = .ok v ∧ (v = true ↔ sp.containsAny a b) := by
  unfold MutateTicks.containsAny
  rw [inv.last, tickLe_abs a b nab, decide_eq_true hab, if_neg (by decide), tickGt_abs a sp.last na]
  by_cases hgt : a > sp.last
  · rw [decide_eq_true hgt, if_pos rfl]
    exact ⟨false, rfl, iff_of_false Bool.false_ne_true (not_exists_has hgt)⟩
  · have hle : a ≤ sp.last := Nat.le_of_not_lt hgt
    rw [decide_eq_false hgt, if_neg Bool.false_ne_true, inv.length, tickLe_window na hle (by decide)]
    by_cases hold : a + 64 ≤ sp.last
    · rw [decide_eq_true hold, if_pos rfl]
      exact ⟨true, rfl, iff_of_true rfl (exists_has_old hab hold)⟩
    · -- inside the window, as in `ch_contains_any_of_inv`; the slots are tested by `any_take_drop`
      have hmin : a ≤ min b sp.last := Nat.le_min.mpr ⟨hab, hle⟩
      have hmin' : min b sp.last ≤ sp.last := Nat.min_le_right _ _
      have hw : sp.last < a + 64 := Nat.lt_of_not_le hold
      obtain ⟨_, s2, s3, _⟩ := slots_of_ticks hmin hmin' hw
      rw [decide_eq_false hold, if_neg Bool.false_ne_true, tickMin_abs nb]
      dsimp only
      rw [tickSub_near na.symm hle, tickSub_within na hmin hmin' (Nat.le_refl _),
        if_neg (not_or.mpr ⟨Nat.not_lt.mpr (Nat.le_succ_of_le s2), Nat.not_le.mpr s3⟩)]
      refine ⟨_, rfl, ?_⟩
      rw [any_take_drop]
      exact (exists_has_window inv.view hle hw).symm

theorem smt_contains_any (s : MutateTicks) (sp : CountSpec) (a b : Nat) (inv : SMTInv s sp)
    (hab : a ≤ b) (nab : Near a b) (na : Near a sp.last) (nb : Near b sp.last) (hbase : 64 ≤ sp.last) :
    ∃ v, s.containsAny (a % 4294967296) (b % 4294967296) = .ok v ∧ (v = true ↔ sp.containsAny a b) := by
  have _ := hbase  -- not needed: the statement without it is `smt_contains_any_of_inv`
  exact smt_contains_any_of_inv s sp a b inv hab nab na nb

end Replicon
