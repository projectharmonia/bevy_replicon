import Replicon.Model.Scene
import Replicon.Proofs.Lookup
/-
C18: what `replicate_into` leaves in the scene.  The export loop of one entity is one equation
(`exportStep_eq`) with an invariant over the candidate prefix; the scene map's keys and lookups after
`upsert` then give the keys and entries after the loop over the world.
-/

namespace Replicon.Scene

/-- What the loop body pushes for a component id it has not seen yet. -/
def emit (refl : Nat → Bool) (e : WEntity) (k : Nat) : List (Nat × Nat) :=
  if refl k then
    match e.comps.lookup k with
    | some v => [(k, v)]
    | none => []
  else []

theorem exportStep_eq (refl : Nat → Bool) (e : WEntity) (st : List Nat × List (Nat × Nat)) (k : Nat) :
    exportStep refl e st k = if st.1.contains k then st else (k :: st.1, st.2 ++ emit refl e k) := by
  unfold exportStep emit
  split
  · rfl
  · cases refl k
    · exact congrArg (Prod.mk _) (List.append_nil _).symm
    · cases e.comps.lookup k
      · exact congrArg (Prod.mk _) (List.append_nil _).symm
      · rfl

theorem mem_emit (refl : Nat → Bool) (e : WEntity) (k j v : Nat) :
    (j, v) ∈ emit refl e k ↔ j = k ∧ refl k = true ∧ e.comps.lookup k = some v := by
  unfold emit
  split
  · next hr =>
    split
    · next w hl =>
      rw [List.mem_singleton, Prod.mk.injEq]
      exact ⟨fun h => ⟨h.1, hr, h.2.symm ▸ hl⟩, fun h => ⟨h.1, Option.some.inj (h.2.2.symm.trans hl)⟩⟩
    · next hl =>
      exact ⟨fun h => absurd h List.not_mem_nil, fun h => nomatch (show none = some v from hl.symm.trans h.2.2)⟩
  · next hr => exact ⟨fun h => absurd h List.not_mem_nil, fun h => absurd h.2.1 hr⟩

theorem keys_emit (refl : Nat → Bool) (e : WEntity) (k : Nat) : ((emit refl e k).map (·.1)).Sublist [k] := by
  unfold emit
  split
  · split
    · exact List.Sublist.refl _
    · exact List.nil_sublist _
  · exact List.nil_sublist _

/-- State invariant of the export loop after the candidate prefix `p`.  `st.1` is the Rust local
`exported` (the component ids seen so far), `st.2` what has been pushed, which is what the model
calls `exported`. -/
structure ExpInv (refl : Nat → Bool) (e : WEntity) (st : List Nat × List (Nat × Nat)) (p : List Nat) : Prop where
  seen : ∀ k, k ∈ st.1 ↔ k ∈ p
  nodup : (st.2.map (·.1)).Nodup
  pushed : ∀ k v, (k, v) ∈ st.2 ↔ k ∈ p ∧ refl k = true ∧ e.comps.lookup k = some v

theorem exportStep_inv (refl : Nat → Bool) (e : WEntity) (st : List Nat × List (Nat × Nat)) (p : List Nat)
    (k : Nat) (inv : ExpInv refl e st p) : ExpInv refl e (exportStep refl e st k) (p ++ [k]) := by
  rw [exportStep_eq]
  by_cases hk : st.1.contains k = true
  · -- seen before: the state stays, and so does the set of candidates seen
    have hp : ∀ j, j ∈ p ↔ j ∈ p ++ [k] := fun j => by
      rw [List.mem_append, List.mem_singleton]
      exact ⟨Or.inl, fun h => h.elim id fun hj => hj ▸ (inv.seen k).mp (List.contains_iff_mem.mp hk)⟩
    rw [if_pos hk]
    exact ⟨fun j => (inv.seen j).trans (hp j), inv.nodup, fun j v => (inv.pushed j v).trans (and_congr_left' (hp j))⟩
  · have hkp : k ∉ p := fun h => hk (List.contains_iff_mem.mpr ((inv.seen k).mpr h))
    rw [if_neg hk]
    refine ⟨fun j => ?_, ?_, fun j v => ?_⟩
    · rw [List.mem_cons, List.mem_append, List.mem_singleton, inv.seen j, or_comm]
    · rw [List.map_append, List.nodup_append]
      refine ⟨inv.nodup, (List.pairwise_singleton _ k).sublist (keys_emit refl e k), fun a ha b hb hab => ?_⟩
      -- a key pushed earlier is in `p`, the new one is `k`
      obtain ⟨⟨_, v⟩, hm, rfl⟩ := List.mem_map.mp ha
      rw [List.mem_singleton.mp ((keys_emit refl e k).subset hb)] at hab
      exact hkp (hab ▸ ((inv.pushed _ v).mp hm).1)
    · rw [List.mem_append, inv.pushed j v, mem_emit, List.mem_append, List.mem_singleton, or_and_right]
      exact or_congr_right ⟨fun h => ⟨h.1, h.1 ▸ h.2⟩, fun h => ⟨h.1, h.1 ▸ h.2⟩⟩

theorem exportFold_inv (refl : Nat → Bool) (e : WEntity) :
    ∀ (l : List Nat) (st : List Nat × List (Nat × Nat)) (p : List Nat),
      ExpInv refl e st p → ExpInv refl e (l.foldl (exportStep refl e) st) (p ++ l)
  | [], _, p, inv => (List.append_nil p).symm ▸ inv
  | k :: l, st, p, inv => by
    rw [List.foldl_cons, ← List.singleton_append, ← List.append_assoc]
    exact exportFold_inv refl e l _ _ (exportStep_inv refl e st p k inv)

/-- the invariant at the end of the loop, with what was pushed under its name `exported` -/
theorem exported_inv (refl : Nat → Bool) (rules : List Rule) (e : WEntity) :
    ∃ seen, ExpInv refl e (seen, exported refl rules e) (candidates rules e) :=
  ⟨_, exportFold_inv refl e (candidates rules e) ([], []) []
    ⟨fun _ => Iff.rfl, List.nodup_nil,
      fun _ _ => ⟨fun h => absurd h List.not_mem_nil, fun h => absurd h.1 List.not_mem_nil⟩⟩⟩

/-- A component id is *selected* for an entity when some rule that matches the entity lists it. -/
def Selected (rules : List Rule) (e : WEntity) (k : Nat) : Prop :=
  ∃ r ∈ rules, ruleMatches r e = true ∧ k ∈ r.comps

theorem mem_candidates (rules : List Rule) (e : WEntity) (k : Nat) :
    k ∈ candidates rules e ↔ Selected rules e k := by
  unfold candidates Selected
  simp only [List.mem_flatMap, List.mem_filter, and_assoc]

theorem lookup_upsert (s : SceneMap) (id j : Nat) (x : List (Nat × Nat)) :
    (upsert s id x).lookup j =
      if j = id then some ((s.lookup id).getD [] ++ x) else s.lookup j := by
  induction s with
  | nil =>
    rw [upsert, List.lookup_cons_ite]
    rfl
  | cons hd tl ih =>
    obtain ⟨i, cs⟩ := hd
    rw [upsert]
    by_cases hi : i = id
    · rw [if_pos hi, List.lookup_cons_ite, List.lookup_cons_ite, List.lookup_cons_ite, hi, if_pos rfl]
      split
      · rfl
      · rfl
    · rw [if_neg hi, List.lookup_cons_ite, List.lookup_cons_ite, List.lookup_cons_ite, if_neg (Ne.symm hi), ih]
      by_cases hj : j = id
      · rw [if_neg (hj ▸ Ne.symm hi), if_pos hj, if_pos hj]
      · rw [if_neg hj, if_neg hj]

theorem keys_upsert (s : SceneMap) (id : Nat) (x : List (Nat × Nat)) :
    (upsert s id x).map (·.1) = if id ∈ s.map (·.1) then s.map (·.1) else s.map (·.1) ++ [id] := by
  induction s with
  | nil => rfl
  | cons hd tl ih =>
    obtain ⟨i, cs⟩ := hd
    rw [upsert, List.map_cons]
    by_cases hi : i = id
    · rw [if_pos hi, if_pos (hi ▸ List.mem_cons_self)]
      rfl
    · rw [if_neg hi, List.map_cons, ih]
      by_cases hm : id ∈ tl.map (·.1)
      · rw [if_pos hm, if_pos (List.mem_cons_of_mem _ hm)]
      · rw [if_neg hm, if_neg fun h => (List.mem_cons.mp h).elim (fun h => hi h.symm) hm]
        rfl

theorem mem_keys_upsert (s : SceneMap) (id j : Nat) (x : List (Nat × Nat)) :
    j ∈ (upsert s id x).map (·.1) ↔ j ∈ s.map (·.1) ∨ j = id := by
  rw [keys_upsert]
  split
  · next h => exact ⟨Or.inl, fun hj => hj.elim (fun hj => hj) fun hj => hj ▸ h⟩
  · rw [List.mem_append, List.mem_singleton]

theorem nodup_keys_upsert (s : SceneMap) (id : Nat) (x : List (Nat × Nat)) (h : (s.map (·.1)).Nodup) :
    ((upsert s id x).map (·.1)).Nodup := by
  rw [keys_upsert]
  split
  · exact h
  · next hid =>
    exact List.nodup_append.mpr ⟨h, List.pairwise_singleton _ id,
      fun a ha b hb hab => hid (List.mem_singleton.mp hb ▸ hab ▸ ha)⟩

theorem replicateInto_cons (refl : Nat → Bool) (rules : List Rule) (s : SceneMap) (e : WEntity) (w : List WEntity) :
    replicateInto refl rules s (e :: w) =
      replicateInto refl rules (if e.marked then upsert s e.id (exported refl rules e) else s) w := by
  unfold replicateInto
  rw [List.foldl_cons]

theorem nodup_keys_replicateInto (refl : Nat → Bool) (rules : List Rule) :
    ∀ (world : List WEntity) (s : SceneMap), (s.map (·.1)).Nodup →
      ((replicateInto refl rules s world).map (·.1)).Nodup := by
  intro world
  induction world with
  | nil => exact fun s h => h
  | cons e w ih =>
    intro s h
    rw [replicateInto_cons]
    apply ih
    split
    · exact nodup_keys_upsert s e.id _ h
    · exact h

theorem mem_keys_replicateInto (refl : Nat → Bool) (rules : List Rule) :
    ∀ (world : List WEntity) (s : SceneMap) (j : Nat),
      j ∈ (replicateInto refl rules s world).map (·.1) ↔
        j ∈ s.map (·.1) ∨ ∃ e ∈ world, e.marked = true ∧ e.id = j := by
  intro world
  induction world with
  | nil => exact fun s j => ⟨Or.inl, fun h => h.elim (fun h => h) fun ⟨_, he, _⟩ => nomatch he⟩
  | cons e w ih =>
    intro s j
    rw [replicateInto_cons, ih]
    simp only [List.mem_cons, exists_eq_or_imp]
    rw [← or_assoc]
    apply or_congr_left
    split
    · next hm =>
      rw [mem_keys_upsert]
      exact or_congr_right ⟨fun h => ⟨hm, h.symm⟩, fun h => h.2.symm⟩
    · next hm => exact ⟨Or.inl, fun h => h.elim (fun h => h) fun h => absurd h.1 hm⟩

theorem lookup_replicateInto (refl : Nat → Bool) (rules : List Rule) :
    ∀ (world : List WEntity) (s : SceneMap) (j : Nat), (world.map (·.id)).Nodup →
      (replicateInto refl rules s world).lookup j =
        match world.find? (fun e => e.marked && e.id == j) with
        | some e => some ((s.lookup j).getD [] ++ exported refl rules e)
        | none => s.lookup j := by
  intro world
  induction world with
  | nil => intro s j _; rfl
  | cons e w ih =>
    intro s j hnd
    obtain ⟨hnot, hndw⟩ := List.nodup_cons.mp hnd
    rw [replicateInto_cons, ih _ j hndw]
    by_cases hm : (e.marked && e.id == j) = true
    · obtain ⟨hmk, hid⟩ := Bool.and_eq_true_iff.mp hm
      have hid : e.id = j := beq_iff_eq.mp hid
      -- ids are distinct: no later entity has the id `j`
      have hnone : w.find? (fun e => e.marked && e.id == j) = none :=
        List.find?_eq_none.mpr fun e' he' hc =>
          hnot (List.mem_map.mpr ⟨e', he', (beq_iff_eq.mp (Bool.and_eq_true_iff.mp hc).2).trans hid.symm⟩)
      rw [List.find?_cons_of_pos (p := fun e : WEntity => e.marked && e.id == j) hm, hnone, if_pos hmk, hid, lookup_upsert, if_pos rfl]
    · rw [List.find?_cons_of_neg (p := fun e : WEntity => e.marked && e.id == j) hm]
      have hs : (if e.marked = true then upsert s e.id (exported refl rules e) else s).lookup j = s.lookup j := by
        split
        · next hmk =>
          rw [lookup_upsert, if_neg fun hj => hm (Bool.and_eq_true_iff.mpr ⟨hmk, beq_iff_eq.mpr hj.symm⟩)]
        · rfl
      rw [hs]

theorem find?_marked_id : ∀ (world : List WEntity), (world.map (·.id)).Nodup → ∀ e ∈ world, e.marked = true →
    world.find? (fun x => x.marked && x.id == e.id) = some e := by
  intro world
  induction world with
  | nil => exact fun _ _ he => nomatch he
  | cons x xs ih =>
    intro hnd e he hm
    obtain ⟨hnot, hndx⟩ := List.nodup_cons.mp hnd
    rcases List.mem_cons.mp he with rfl | he
    · exact List.find?_cons_of_pos (p := fun x : WEntity => x.marked && x.id == e.id)
        (Bool.and_eq_true_iff.mpr ⟨hm, beq_self_eq_true e.id⟩)
    · rw [List.find?_cons_of_neg (p := fun x : WEntity => x.marked && x.id == e.id) fun hx =>
        hnot (List.mem_map.mpr ⟨e, he, (beq_iff_eq.mp (Bool.and_eq_true_iff.mp hx).2).symm⟩)]
      exact ih hndx e he hm

theorem lookup_replicateInto_marked (refl : Nat → Bool) (rules : List Rule) (world : List WEntity) (s : SceneMap)
    (e : WEntity) (hnd : (world.map (·.id)).Nodup) (he : e ∈ world) (hm : e.marked = true) :
    (replicateInto refl rules s world).lookup e.id = some ((s.lookup e.id).getD [] ++ exported refl rules e) := by
  rw [lookup_replicateInto refl rules world s e.id hnd, find?_marked_id world hnd e he hm]

end Replicon.Scene
