import Replicon.Proofs.ClientHeld
import Replicon.Proofs.Sync
/-
"Which entities a client holds", both sides of the wire: `Proofs/Sync.lean` (the update message of
a run carries exactly the difference of the server's tracked sets) joined with
`Proofs/ClientHeld.lean` (what `apply_update_message` does to the set of server entities the client
holds).  This is the entity-level content of C03.
-/
namespace Replicon.Cli
open Replicon.Srv

theorem applyUpdate_applyKeys (c : Client) (u : Update) (wf : WF c) (hm : u.mappings = [])
    (hr : ∀ r ∈ u.removals, (held c r.1 ∧ r.1 ∉ u.despawns) ∨ r.1 ∈ u.changes.map (·.ent))
    (l : List Nat) (hl : ∀ se, se ∈ l ↔ held c se) :
    ∀ se, se ∈ applyKeys l (some u) ↔ held (applyUpdate c u) se := by
  intro se
  rw [(applyUpdate_held c u wf hm hr).2 se]
  unfold applyKeys
  simp only [List.mem_append, List.mem_filter_not_contains]
  rw [hl se]

end Replicon.Cli

namespace Replicon.Srv
open Replicon.Cli

def RemovalsMarked (s : Server) : Prop := ∀ r ∈ s.removalBuf, marked s.world r.1

theorem removals_known_or_changed (s : Server) (thisRun : Nat) (cl : Cli) (hrm : RemovalsMarked s)
    (u : Update) (hu : (runClient s thisRun cl).2.update = some u) :
    ∀ r ∈ u.removals, r.1 ∈ keys (runCl1 s cl) ∨ r.1 ∈ runChanged s thisRun cl := by
  cases runClient_update_some hu
  intro r hr
  obtain ⟨hmem, hvis⟩ := List.mem_filter.mp hr
  by_cases hk : r.1 ∈ keys (runCl1 s cl)
  · exact Or.inl hk
  · exact Or.inr (unknown_whole s thisRun cl r.1 hk (hrm r hmem) ((visState_ne_hidden_iff s _ r.1).mpr hvis)).2

/-- what `applyUpdate_held` needs of a message, relative to the receiver -/
def MsgOk (c : Client) (u : Update) : Prop :=
  u.mappings = [] ∧ ∀ r ∈ u.removals, (held c r.1 ∧ r.1 ∉ u.despawns) ∨ r.1 ∈ u.changes.map (·.ent)

theorem MsgOk.mappings {c : Client} {u : Update} (h : MsgOk c u) : u.mappings = [] := h.1
theorem MsgOk.removals {c : Client} {u : Update} (h : MsgOk c u) :
    ∀ r ∈ u.removals, (held c r.1 ∧ r.1 ∉ u.despawns) ∨ r.1 ∈ u.changes.map (·.ent) := h.2

theorem frame_msg_ok (p : Server) (inv : SyncInv p) (hrm : RemovalsMarked p)
    (x : Nat × Cli) (hx : x ∈ p.clients) (hmap : x.2.mappings = [])
    (c : Client) (hh : ∀ se, held c se ↔ se ∈ keys x.2)
    (u : Update) (hu : (runClient p (p.now + 1) x.2).2.update = some u) : MsgOk c u := by
  have hkc := removals_known_or_changed p (p.now + 1) x.2 hrm u hu
  cases runClient_update_some hu
  refine ⟨hmap, fun r hrm' => ?_⟩
  rcases hkc r hrm' with h | h
  · have k := kept_of_sync p x.2 (inv.sync x hx) r.1 h
    exact Or.inl ⟨(hh r.1).mpr k.tracked, k.notDespawned⟩
  · exact Or.inr h

theorem frame_both_sides (p : Server) (parts : Nat → List (List Nat)) (inv : SyncInv p) (hrm : RemovalsMarked p)
    (x : Nat × Cli) (hx : x ∈ p.clients) (ha : x.2.authorized = true) (hmap : x.2.mappings = [])
    (c : Client) (wf : WF c) (hh : ∀ se, held c se ↔ se ∈ keys x.2) :
    match (runClient p (p.now + 1) x.2).2.update with
    | some u => WF (applyUpdate c u) ∧ ∀ se, held (applyUpdate c u) se ↔ se ∈ keys (ranClient p parts x).2
    | none => ∀ se, held c se ↔ se ∈ keys (ranClient p parts x).2 := by
  cases hu : (runClient p (p.now + 1) x.2).2.update with
  | none => exact fun se => (hh se).trans (frame_silent p parts inv x hx ha hu se).symm
  | some u =>
    have ok := frame_msg_ok p inv hrm x hx hmap c hh u hu
    obtain ⟨w, hheld⟩ := applyUpdate_held c u wf ok.mappings ok.removals
    refine ⟨w, fun se => ?_⟩
    rw [hheld se, hh se]
    exact (diff_of_frame p parts inv x hx ha u hu).apply se

/-! ### buffered removals are for replicated entities, over histories in which a stopped server
sees a frame before it is started again -/

structure RemInv (s : Server) : Prop where
  clean : s.lastRunning = false → s.removalBuf = []
  marked : s.running = true → RemovalsMarked s

theorem RemInv.transport {s s' : Server} (inv : RemInv s) (h1 : s'.lastRunning = s.lastRunning)
    (h2 : s'.removalBuf = s.removalBuf) (h3 : s'.running = s.running) (h4 : s'.world = s.world) : RemInv s' := by
  refine ⟨?_, ?_⟩
  · rw [h1, h2]; exact inv.clean
  · rw [h3]; intro hr; unfold RemovalsMarked; rw [h2, h4]; exact inv.marked hr

theorem remInv_empty (s : Server) (hb : s.removalBuf = []) : RemInv s :=
  ⟨fun _ => hb, fun _ r hr => by rw [hb] at hr; cases hr⟩

theorem remInv_updClient (s : Server) (c : Nat) (f : Cli → Cli) (inv : RemInv s) : RemInv (s.updClient c f) := by
  rw [updClient_rest]
  exact inv.transport rfl rfl rfl rfl

/-- a world operation: buffered removals only shrink, and an entity that loses the marker is
dropped from the buffer -/
theorem remInv_worldStep (s s' : Server) (inv : RemInv s) (h : WorldStep s s') : RemInv s' := by
  refine ⟨fun hl => ?_, fun hr r hm => ?_⟩
  · have hl' : s.lastRunning = false := (congrArg Server.lastRunning h.rest :).symm.trans hl
    cases hb : s'.removalBuf with
    | nil => rfl
    | cons r rs => exact absurd (h.rbuf r (hb ▸ List.mem_cons_self)) (inv.clean hl' ▸ List.not_mem_nil)
  · have hr' : s.running = true := h.running.symm.trans hr
    rcases h.kept hr' r.1 (inv.marked hr' r (h.rbuf r hm)) with hk | ⟨_, hk⟩
    · exact hk
    · exact absurd rfl (hk r hm)

theorem bufStep_marked (s : Server) (buf : List (Nat × List Nat)) (x : Nat × Nat) (h : ∀ r ∈ buf, marked s.world r.1) :
    ∀ r ∈ bufStep s buf x, marked s.world r.1 := by
  by_cases hc : bufCond s x.1 x.2
  · rw [bufStep_of_cond buf hc]
    obtain ⟨ent, hg, hm, _⟩ := hc
    split
    · exact h
    · intro r hrm
      rcases (mem_aset _ _ _ _).mp hrm with rfl | ⟨hm', _⟩
      · exact ⟨ent, mem_of_aget _ _ _ hg, hm⟩
      · exact h r hm'
  · rw [bufStep_of_not buf hc]
    exact h

theorem preRun_rem (s : Server) (ticked : Bool) (ms : Nat) (hr : s.running = true) (inv : RemInv s) :
    RemovalsMarked (preRun s ticked ms) ∧ (preRun s ticked ms).lastRunning = true := by
  rw [preRun_eq]
  refine ⟨?_, rfl⟩
  show ∀ r ∈ (if s.running then _ else s.removalBuf), marked s.world r.1
  rw [if_pos hr]
  exact foldl_inv (bufStep s) (fun buf => ∀ r ∈ buf, marked s.world r.1) (bufStep_marked s) _ _ (inv.marked hr)

theorem fullFrame_rem (s : Server) (ticked : Bool) (ms : Nat) (parts : Nat → List (List Nat)) (inv : RemInv s) :
    RemInv (s.fullFrame ticked ms parts) := by
  cases hr : s.running with
  | false =>
    rw [fullFrame_of_stopped s ticked ms parts hr]
    refine ⟨fun _ => ?_, fun h => nomatch hr.symm.trans h⟩
    show (if s.lastRunning then [] else s.removalBuf) = []
    split
    · rfl
    · rename_i hl
      exact inv.clean (Bool.eq_false_iff.mpr hl)
  | true =>
    obtain ⟨pm, pl⟩ := preRun_rem s ticked ms hr inv
    cases hc : (preRun s ticked ms).tickChanged with
    | false =>
      rw [fullFrame_of_idle s ticked ms parts hr hc]
      exact ⟨fun h => (nomatch pl.symm.trans h), fun _ => pm⟩
    | true =>
      rw [fullFrame_of_ran s ticked ms parts hr hc]
      exact ⟨fun h => (nomatch pl.symm.trans h), fun _ r h => nomatch h⟩

end Replicon.Srv

namespace Replicon.Joint
open Replicon.Srv Replicon.Cli

/-- `LegalOp`, and a stopped server sees a frame (which runs `reset`) before it is started again -/
def LegalOp' (s : Server) : Op → Prop
  | .spawn e _ _ => e ∉ s.world.map (·.1)
  | .start => s.running = true ∨ s.lastRunning = false
  | _ => True

/-- `Legal` with `LegalOp'` -/
def Legal' : St → List Op → Prop
  | _, [] => True
  | st, op :: ops => LegalOp' st.srv op ∧ Legal' (step st op).1 ops

instance (s : Server) (op : Op) : Decidable (LegalOp' s op) := by
  cases op <;> unfold LegalOp' <;> infer_instance

def decLegal' : ∀ (st : St) (ops : List Op), Decidable (Legal' st ops)
  | _, [] => isTrue trivial
  | st, op :: ops =>
    match (inferInstance : Decidable (LegalOp' st.srv op)), decLegal' (step st op).1 ops with
    | isTrue h1, isTrue h2 => isTrue ⟨h1, h2⟩
    | isFalse h1, _ => isFalse fun h => h1 h.1
    | _, isFalse h2 => isFalse fun h => h2 h.2

instance (st : St) (ops : List Op) : Decidable (Legal' st ops) := decLegal' st ops

theorem legalOp_of_legalOp' (s : Server) (op : Op) (h : LegalOp' s op) : LegalOp s op := by
  cases op <;> first | exact h | trivial

theorem rem_step (st : St) (op : Op) (inv : RemInv st.srv) (hw : (st.srv.world.map (·.1)).Nodup)
    (hl : LegalOp' st.srv op) : RemInv (step st op).1.srv := by
  cases op with
  | spawn e m cs => exact remInv_worldStep _ _ inv (spawn_worldStep st.srv e m cs hw (legalOp_of_legalOp' st.srv _ hl))
  | vis c e b => exact remInv_updClient st.srv c _ inv
  | map c e p => exact remInv_updClient st.srv c _ inv
  | connect c a => exact inv.transport rfl rfl rfl rfl
  | authorize c => exact remInv_updClient st.srv c _ inv
  | disconnect c => exact inv.transport rfl rfl rfl rfl
  | stop => exact ⟨inv.clean, fun h => by cases h⟩
  | start =>
    refine ⟨inv.clean, fun _ => hl.elim inv.marked fun h r (hr : r ∈ st.srv.removalBuf) => ?_⟩
    rw [inv.clean h] at hr
    cases hr
  | ack c idxs => exact remInv_updClient st.srv c _ inv
  | emit em => exact inv
  | frame t ms parts => exact fullFrame_rem st.srv t ms parts inv
  -- `despawn`, `insert`, `mutate`, `remove`, `mark`
  | _ => exact remInv_worldStep _ _ inv ((step_worldOp st _ rfl).worldStep hw)

theorem rem_run (ops : List Op) : ∀ (st : St), RemInv st.srv → SyncInv st.srv → Legal' st ops →
    RemInv (run st ops).1.srv ∧ SyncInv (run st ops).1.srv := by
  induction ops with
  | nil => exact fun st inv sinv _ => ⟨inv, sinv⟩
  | cons op ops ih =>
    intro st inv sinv hl
    exact ih (step st op).1 (rem_step st op inv sinv.worldNodup hl.1)
      (sync_step st op sinv (legalOp_of_legalOp' _ _ hl.1)) hl.2

theorem history_both_sides (s0 : Server) (hw : s0.world = []) (hc0 : s0.clients = []) (hb : s0.removalBuf = [])
    (ops : List Op) (hl : Legal' { srv := s0 } ops) (ticked : Bool) (ms : Nat) (parts : Nat → List (List Nat))
    (hr : (run { srv := s0 } ops).1.srv.running = true)
    (x : Nat × Cli) (hx : x ∈ (preRun (run { srv := s0 } ops).1.srv ticked ms).clients)
    (ha : x.2.authorized = true) (hmap : x.2.mappings = [])
    (c : Client) (wf : WF c) (hh : ∀ se, held c se ↔ se ∈ keys x.2) :
    match (runClient (preRun (run { srv := s0 } ops).1.srv ticked ms)
        ((preRun (run { srv := s0 } ops).1.srv ticked ms).now + 1) x.2).2.update with
    | some u => WF (applyUpdate c u) ∧
        ∀ se, held (applyUpdate c u) se ↔ se ∈ keys (ranClient (preRun (run { srv := s0 } ops).1.srv ticked ms) parts x).2
    | none => ∀ se, held c se ↔ se ∈ keys (ranClient (preRun (run { srv := s0 } ops).1.srv ticked ms) parts x).2 := by
  obtain ⟨rinv, sinv⟩ := rem_run ops _ (remInv_empty s0 hb) (sync_empty s0 hw hc0) hl
  exact frame_both_sides _ parts (preRun_sync _ ticked ms sinv) (preRun_rem _ ticked ms hr rinv).1 x hx ha hmap c wf hh

end Replicon.Joint
