import Replicon.Proofs.ClientHeld
/-
Values, client side: what `apply_update_message` and the records of mutate messages do to the value
of a plain (not entity-valued) component of the client entity that stands for a server entity.  The
value is a field of the view (`valOn_eq_view`), so each statement is read off the view equations of
`Proofs/ClientView.lean`.  An entity an update message does not name keeps its view, so its whole
record and with it its confirmed tick; the records of a run's mutate messages, applied one after the
other (`mutStep`), reach their entity while it is still confirmed at an older tick (`mutFold_target`).
-/
namespace Replicon.Cli
open Replicon Replicon.Srv

/-- The value the client has for component `k` of the entity that stands for server entity `se`; `none`
if it is not mapped or has no such component. -/
def valOn (c : Client) (se k : Nat) : Option Nat :=
  match aget c.s2c se with
  | some ce => (match aget c.world ce with
    | some ent => aget ent.comps k
    | none => none)
  | none => none

/-- the form every proof uses `valOn` in -/
theorem valOn_eq_view (c : Client) (se k : Nat) : valOn c se k = aget (viewOf c se).comps k := by
  unfold valOn viewOf
  cases aget c.s2c se with
  | none => rfl
  | some ce => simp only; cases aget c.world ce <;> rfl

/-- from the view equation of a step that writes a record onto `e` (`applyChange_effect`,
`confirmWrite_effect`) to the plain values -/
theorem vals_of_view {c c' : Client} {e : Nat} {ws comps : List (Nat × Nat)} (hws : Written c ws comps)
    (hnd : (comps.map (·.1)).Nodup) (k : Nat) (hplain : c.entityComps.contains k = false) {mk : Bool} {hist : Option Nat}
    (v : ∀ se, viewOf c' se = if se = e then
        { marked := mk, comps := ws.foldl (fun cs w => aset cs w.1 w.2) (viewOf c e).comps, hist := hist }
      else viewOf c se) (se : Nat) :
    valOn c' se k = if se = e ∧ k ∈ comps.map (·.1) then aget comps k else valOn c se k := by
  rw [valOn_eq_view, valOn_eq_view, v se]
  by_cases he : se = e
  · -- lookup after writing pairs with distinct keys; what was written has the record's kinds and plain values
    rw [if_pos he, he]
    show aget (ws.foldl (fun cs w => aset cs w.1 w.2) (viewOf c e).comps) k = _
    rw [aget_foldl_aset k ws _ (Written.keys c ws comps hws ▸ hnd), Written.keys c ws comps hws,
      Written.aget c k hplain ws comps hws]
    by_cases hk : k ∈ comps.map (·.1)
    · rw [if_pos hk, if_pos ⟨rfl, hk⟩]
    · rw [if_neg hk, if_neg (fun h => hk h.2)]
  · rw [if_neg he, if_neg (fun h => he h.1)]

theorem applyChange_vals (tick : Nat) (c : Client) (m : MsgEnt) (wf : WF c) (hnd : (m.comps.map (·.1)).Nodup)
    (c' : Client) (h : applyChange tick c m = some c') (se k : Nat) (hplain : c.entityComps.contains k = false) :
    valOn c' se k = (if se = m.ent ∧ k ∈ m.comps.map (·.1) then aget m.comps k else valOn c se k) := by
  obtain ⟨_, ws, hws, v⟩ := of_eq_some (applyChange_effect tick c m wf) h
  exact vals_of_view hws hnd k hplain v se

theorem applyRemoval_vals_other (tick : Nat) (c : Client) (r : Nat × List Nat) (wf : WF c) (c' : Client)
    (h : applyRemoval tick c r = some c') (se k : Nat) (hne : ¬ (se = r.1 ∧ k ∈ r.2)) :
    valOn c' se k = valOn c se k := by
  obtain ⟨_, v⟩ := of_eq_some (applyRemoval_effect tick c r wf) h
  rw [valOn_eq_view, valOn_eq_view, v se]
  split
  · rename_i he
    show aget ((viewOf c se).comps.filter fun x => !r.2.contains x.1) k = _
    rw [aget_filter_key (fun j => !r.2.contains j), if_pos]
    simpa using fun hk => hne ⟨he, hk⟩
  · rfl

theorem applyDespawn_vals_other (c : Client) (se' : Nat) (wf : WF c) (se k : Nat) (hne : se ≠ se') :
    valOn (applyDespawn c se') se k = valOn c se k := by
  rw [valOn_eq_view, valOn_eq_view, viewOf_applyDespawn c se' wf se, if_neg hne]

theorem confirmWrite_vals (c : Client) (se ce tick : Nat) (comps : List (Nat × Nat)) (wf : WF c)
    (hs : aget c.s2c se = some ce) (hnd : (comps.map (·.1)).Nodup) (se' k : Nat) (hplain : c.entityComps.contains k = false) :
    valOn (writeComps (confirm c ce tick) ce comps) se' k =
      if se' = se ∧ k ∈ comps.map (·.1) then aget comps k else valOn c se' k := by
  obtain ⟨_, ws, hws, v⟩ := confirmWrite_effect c se ce tick comps wf hs
  exact vals_of_view hws hnd k hplain v se'

theorem changes_vals (tick : Nat) (e : Nat) (r : MsgEnt) (hre : r.ent = e) (hnd : (r.comps.map (·.1)).Nodup) (k : Nat)
    (hk : k ∈ r.comps.map (·.1)) :
    ∀ (l : List MsgEnt) (c : Client), WF c → c.entityComps.contains k = false → (∀ m ∈ l, m.ent = e → m = r) →
      (r ∈ l ∨ valOn c e k = aget r.comps k) →
      valOn (foldOpt (applyChange tick) (c, false) l).1 e k = aget r.comps k := by
  subst hre
  intro l
  induction l with
  | nil => exact fun c _ _ _ h => h.elim (fun h => nomatch h) id
  | cons x xs ih =>
    intro c wf hplain hall h
    obtain ⟨c1, e1, m1, _, _, v⟩ := applyChange_effect tick c x wf
    rw [foldOpt_cons_some xs e1]
    apply ih c1 m1.wf ((applyChange_same tick c x c1 e1).entityComps ▸ hplain) (fun m hm => hall m (List.mem_cons_of_mem _ hm))
    by_cases hx : x.ent = r.ent
    · -- the record for `e`: it is `r`, and sets the value
      cases hall x List.mem_cons_self hx
      exact Or.inr ((applyChange_vals tick c r wf hnd c1 e1 r.ent k hplain).trans (if_pos ⟨rfl, hk⟩))
    · -- a record for another entity (its kinds need not be distinct) leaves the view of `e` alone
      have hval : valOn c1 r.ent k = valOn c r.ent k := by
        rw [valOn_eq_view, valOn_eq_view, v r.ent, if_neg (fun he => hx he.symm)]
      exact h.imp (fun h => (List.mem_cons.mp h).resolve_left (fun h' => hx (by rw [← h']))) hval.trans

theorem applyUpdate_record_vals (c : Client) (u : Update) (wf : WF c) (hm : u.mappings = []) (e : Nat) (r : MsgEnt)
    (hr : r ∈ u.changes) (hre : r.ent = e) (hall : ∀ m ∈ u.changes, m.ent = e → m = r)
    (hnd : (r.comps.map (·.1)).Nodup) (k : Nat) (hk : k ∈ r.comps.map (·.1)) (hplain : c.entityComps.contains k = false) :
    valOn (applyUpdate c u) e k = aget r.comps k := by
  obtain ⟨c2, w2, hec2, he⟩ := applyUpdate_upto_changes u hm (fun c' => c'.entityComps = c.entityComps) (fun _ h => h)
    (fun c1 se _ _ h => (applyDespawn_same c1 se).entityComps.trans h)
    (fun c1 r _ c' _ h e => (applyRemoval_same u.tick c1 r c' e).entityComps.trans h) c wf rfl
  rw [he]
  exact changes_vals u.tick e r hre hnd k hk u.changes c2 w2 (hec2 ▸ hplain) hall (Or.inl hr)

theorem applyUpdate_vals_other (c : Client) (u : Update) (wf : WF c) (hm : u.mappings = []) (se k : Nat)
    (hplain : c.entityComps.contains k = false)
    (hd : se ∉ u.despawns) (hr : ∀ r ∈ u.removals, ¬ (se = r.1 ∧ k ∈ r.2))
    (hnd : ∀ m ∈ u.changes, (m.comps.map (·.1)).Nodup)
    (hc : ∀ m ∈ u.changes, ¬ (se = m.ent ∧ k ∈ m.comps.map (·.1))) :
    valOn (applyUpdate c u) se k = valOn c se k := by
  obtain ⟨-, -, hval⟩ := applyUpdate_induct u hm (fun c' => c'.entityComps = c.entityComps ∧ valOn c' se k = valOn c se k) (fun _ h => h)
    (fun c1 x hx wf h => ⟨(applyDespawn_same c1 x).entityComps.trans h.1,
      (applyDespawn_vals_other c1 x wf se k (fun e => hd (e ▸ hx))).trans h.2⟩)
    (fun c1 r hrm c' wf h e => ⟨(applyRemoval_same u.tick c1 r c' e).entityComps.trans h.1,
      (applyRemoval_vals_other u.tick c1 r wf c' e se k (hr r hrm)).trans h.2⟩)
    (fun c1 m hmm c' wf h e => ⟨(applyChange_same u.tick c1 m c' e).entityComps.trans h.1, by
      rw [applyChange_vals u.tick c1 m wf (hnd m hmm) c' e se k (h.1 ▸ hplain), if_neg (hc m hmm)]
      exact h.2⟩) c wf ⟨rfl, rfl⟩
  exact hval

/-- `c'` has the view of `se` that `c` had, under the mapping `c` had for it (if any) -/
structure SameView (c c' : Client) (se : Nat) : Prop where
  mapped : ∀ x, aget c.s2c se = some x → aget c'.s2c se = some x
  view : viewOf c' se = viewOf c se

theorem applyUpdate_unnamed (c : Client) (u : Update) (wf : WF c) (hm : u.mappings = []) (se : Nat)
    (hd : se ∉ u.despawns) (hr : ∀ r ∈ u.removals, se ≠ r.1) (hc : ∀ m ∈ u.changes, se ≠ m.ent) :
    SameView c (applyUpdate c u) se :=
  (applyUpdate_induct u hm (fun c' => SameView c c' se) (fun _ h => ⟨h.mapped, h.view⟩)
    (fun c1 x hx wf h => by
      have hne : se ≠ x := fun e => hd (e ▸ hx)
      exact ⟨fun y hy => by rw [applyDespawn_s2c c1 x se, if_neg hne]; exact h.mapped y hy,
        by rw [viewOf_applyDespawn c1 x wf se, if_neg hne]; exact h.view⟩)
    (fun c1 r hrm c' wf h e => by
      obtain ⟨m1, v⟩ := of_eq_some (applyRemoval_effect u.tick c1 r wf) e
      exact ⟨fun y hy => m1.mapped se y (h.mapped y hy), by rw [v se, if_neg (hr r hrm)]; exact h.view⟩)
    (fun c1 m hmm c' wf h e => by
      obtain ⟨m1, _, _, v⟩ := of_eq_some (applyChange_effect u.tick c1 m wf) e
      exact ⟨fun y hy => m1.mapped se y (h.mapped y hy), by rw [v se, if_neg (hc m hmm)]; exact h.view⟩)
    c wf ⟨fun _ h => h, rfl⟩).2

def Untouched (c c' : Client) (se : Nat) : Prop :=
  aget c'.s2c se = aget c.s2c se ∧ ∀ ce, aget c.s2c se = some ce → aget c'.world ce = aget c.world ce

theorem untouched_of_view {c c' : Client} (wf : WF c) (wf' : WF c') (se : Nat) (h : SameView c c' se)
    (hm : (aget c.s2c se).isSome = true) : Untouched c c' se := by
  cases hs : aget c.s2c se with
  | none => rw [hs] at hm; cases hm
  | some ce =>
    have hs' := h.mapped ce hs
    refine ⟨hs'.trans hs.symm, fun x hx => ?_⟩
    obtain rfl := Option.some.inj (hs.symm.trans hx)
    cases hw : aget c.world ce with
    | none => have := wf.alive se ce hs; rw [hw] at this; cases this
    | some ent =>
      cases hw' : aget c'.world ce with
      | none => have := wf'.alive se ce hs'; rw [hw'] at this; cases this
      | some ent' =>
        have hv := h.view
        rw [viewOf_mapped c' se ce ent' hs' hw', viewOf_mapped c se ce ent hs hw] at hv
        rw [hv]

/-- the whole record stays — in particular its confirmed tick -/
theorem applyUpdate_untouched (c : Client) (u : Update) (wf : WF c) (hm : u.mappings = []) (se : Nat)
    (hmap : (aget c.s2c se).isSome = true)
    (hd : se ∉ u.despawns) (hr : ∀ r ∈ u.removals, se ≠ r.1) (hc : ∀ m ∈ u.changes, se ≠ m.ent) :
    Untouched c (applyUpdate c u) se :=
  untouched_of_view wf (applyUpdate_wf c u wf hm) se (applyUpdate_unnamed c u wf hm se hd hr hc) hmap

/-- The receiver of `Srv.recvRun` for one record: applied if `applyMutEnt` succeeds, the client as it was
otherwise — and then it goes on with the next record, whereas `applyMutate` drops the rest of the message
after a record that fails (`Err`).  No lemma relates the two; for records whose entities are `Ready`
(`mutFold_target`) neither fails. -/
def mutStep (tick : Nat) (c : Client) (m : MsgEnt) : Client :=
  match applyMutEnt c tick m with
  | .ok c' => c'
  | _ => c

/-- `apply_mutations` applies a record with tick `tick` for `e`: `e` is mapped to a live client entity
whose confirmed tick is older. -/
def Ready (tick : Nat) (c : Client) (e : Nat) : Prop :=
  ∃ ce cent last, aget c.s2c e = some ce ∧ aget c.world ce = some cent ∧ cent.hist = some last ∧ last < tick

/-- the empty view is confirmed at no tick, so `Ready` is a property of the view -/
theorem ready_iff_view (tick : Nat) (c : Client) (e : Nat) :
    Ready tick c e ↔ ∃ last, (viewOf c e).hist = some last ∧ last < tick := by
  constructor
  · rintro ⟨ce, cent, last, h1, h2, h3, h4⟩
    exact ⟨last, by rw [viewOf_mapped c e ce cent h1 h2]; exact h3, h4⟩
  · rintro ⟨last, h3, h4⟩
    cases h1 : aget c.s2c e with
    | none => rw [viewOf_unmapped c e h1] at h3; cases h3
    | some ce =>
      cases h2 : aget c.world ce with
      | none =>
        unfold viewOf at h3
        rw [h1] at h3
        simp only [h2] at h3
        cases h3
      | some cent => exact ⟨ce, cent, last, h1, h2, by rw [← viewOf_mapped c e ce cent h1 h2]; exact h3, h4⟩

theorem ready_of_view {tick : Nat} {c c' : Client} {e : Nat} (hv : viewOf c' e = viewOf c e) (h : Ready tick c e) :
    Ready tick c' e := by
  rw [ready_iff_view] at h ⊢
  rw [hv]; exact h

theorem applyMutEnt_ready (c : Client) (tick : Nat) (m : MsgEnt) (ce : Nat) (ent : CEnt) (last : Nat)
    (hs : aget c.s2c m.ent = some ce) (hw : aget c.world ce = some ent) (hh : ent.hist = some last) (hnew : tick > last) :
    applyMutEnt c tick m = .ok (writeComps (confirm c ce tick) ce m.comps) := by
  unfold applyMutEnt
  simp only [hs, hw, hh, if_pos hnew]

theorem mutStep_skip (tick : Nat) (c : Client) (m : MsgEnt) (h : ¬ Ready tick c m.ent) : mutStep tick c m = c := by
  unfold mutStep
  cases ha : applyMutEnt c tick m with
  | ok c' =>
    rcases applyMutEnt_atomic c tick m c' ha with h0 | ⟨ce, last, hs, ⟨ent, hw, hh⟩, hlt, _⟩
    · exact h0
    · exact absurd ⟨ce, ent, last, hs, hw, hh, hlt⟩ h
  | err => rfl
  | panic _ => rfl

theorem mutStep_ready (tick : Nat) (c : Client) (m : MsgEnt) (h : Ready tick c m.ent) :
    ∃ ce, aget c.s2c m.ent = some ce ∧ mutStep tick c m = writeComps (confirm c ce tick) ce m.comps := by
  obtain ⟨ce, ent, last, hs, hw, hh, hlt⟩ := h
  refine ⟨ce, hs, ?_⟩
  unfold mutStep
  rw [applyMutEnt_ready c tick m ce ent last hs hw hh hlt]

theorem mutStep_effect (tick : Nat) (c : Client) (m : MsgEnt) (wf : WF c) :
    WF (mutStep tick c m) ∧ ∀ se, se ≠ m.ent → viewOf (mutStep tick c m) se = viewOf c se := by
  by_cases h : Ready tick c m.ent
  · obtain ⟨ce, hs, he⟩ := mutStep_ready tick c m h
    obtain ⟨e, ws, _, v⟩ := confirmWrite_effect c m.ent ce tick m.comps wf hs
    rw [he]
    exact ⟨e.wf, fun se hne => by rw [v se, if_neg hne]⟩
  · rw [mutStep_skip tick c m h]
    exact ⟨wf, fun _ _ => rfl⟩

theorem mutStep_entityComps (tick : Nat) (c : Client) (m : MsgEnt) : (mutStep tick c m).entityComps = c.entityComps := by
  unfold mutStep
  cases ha : applyMutEnt c tick m with
  | ok c' => exact (applyMutEnt_same c tick m c' ha).entityComps
  | err => rfl
  | panic _ => rfl

theorem mutStep_vals_named (tick : Nat) (c : Client) (m : MsgEnt) (wf : WF c) (hnd : (m.comps.map (·.1)).Nodup)
    (h : Ready tick c m.ent) (k : Nat) (hplain : c.entityComps.contains k = false) (hk : k ∈ m.comps.map (·.1)) :
    valOn (mutStep tick c m) m.ent k = aget m.comps k := by
  obtain ⟨ce, hs, he⟩ := mutStep_ready tick c m h
  rw [he, confirmWrite_vals c m.ent ce tick m.comps wf hs hnd m.ent k hplain, if_pos ⟨rfl, hk⟩]

theorem mutStep_vals_other (tick : Nat) (c : Client) (m : MsgEnt) (wf : WF c) (hnd : (m.comps.map (·.1)).Nodup)
    (se k : Nat) (hplain : c.entityComps.contains k = false) (hne : ¬ (se = m.ent ∧ k ∈ m.comps.map (·.1))) :
    valOn (mutStep tick c m) se k = valOn c se k := by
  by_cases h : Ready tick c m.ent
  · obtain ⟨ce, hs, he⟩ := mutStep_ready tick c m h
    rw [he, confirmWrite_vals c m.ent ce tick m.comps wf hs hnd se k hplain, if_neg hne]
  · rw [mutStep_skip tick c m h]

theorem mutFold_wf (tick : Nat) : ∀ (l : List MsgEnt) (c : Client), WF c → (∀ m ∈ l, (m.comps.map (·.1)).Nodup) →
    WF (l.foldl (mutStep tick) c) :=
  fun l _ wf _ => List.foldlRecOn l _ wf (fun c wf x _ => (mutStep_effect tick c x wf).1)

theorem mutFold_unnamed (tick : Nat) (se k : Nat) : ∀ (l : List MsgEnt) (c : Client), WF c →
    c.entityComps.contains k = false → (∀ m ∈ l, (m.comps.map (·.1)).Nodup) →
    (∀ m ∈ l, ¬ (se = m.ent ∧ k ∈ m.comps.map (·.1))) →
    valOn (l.foldl (mutStep tick) c) se k = valOn c se k := by
  intro l c wf hplain hnd hno
  obtain ⟨-, -, hval⟩ := List.foldlRecOn
    (motive := fun c' => WF c' ∧ c'.entityComps = c.entityComps ∧ valOn c' se k = valOn c se k)
    l _ ⟨wf, rfl, rfl⟩ (fun c1 ⟨wf1, hec, hval⟩ x hx => ⟨(mutStep_effect tick c1 x wf1).1, (mutStep_entityComps tick c1 x).trans hec,
      (mutStep_vals_other tick c1 x wf1 (hnd x hx) se k (hec ▸ hplain) (hno x hx)).trans hval⟩)
  exact hval

theorem mutFold_target (tick : Nat) (e k v : Nat) (r : MsgEnt) (hre : r.ent = e)
    (hk : k ∈ r.comps.map (·.1)) (hv : aget r.comps k = some v) :
    ∀ (l : List MsgEnt) (c : Client), WF c → c.entityComps.contains k = false →
      (∀ m ∈ l, (m.comps.map (·.1)).Nodup) → (∀ m ∈ l, m.ent = e → m = r) →
      ((r ∈ l ∧ Ready tick c e) ∨ valOn c e k = some v) →
      valOn (l.foldl (mutStep tick) c) e k = some v := by
  intro l
  induction l with
  | nil => exact fun c _ _ _ _ h => h.elim (fun h => nomatch h.1) id
  | cons x xs ih =>
    intro c wf hplain hnd hall h
    obtain ⟨wf1, vother⟩ := mutStep_effect tick c x wf
    rw [List.foldl_cons]
    apply ih _ wf1 (by rw [mutStep_entityComps]; exact hplain)
      (fun m hm => hnd m (List.mem_cons_of_mem _ hm)) (fun m hm => hall m (List.mem_cons_of_mem _ hm))
    by_cases hx : x.ent = e
    · -- the record for `e`: it is `r`; applied if `e` is `Ready`, else an earlier copy has set the value already
      cases hall x List.mem_cons_self hx
      right
      by_cases hR : Ready tick c r.ent
      · rw [← hx, mutStep_vals_named tick c r wf (hnd r List.mem_cons_self) hR k hplain hk]; exact hv
      · rw [mutStep_skip tick c r hR]
        exact h.elim (fun h' => absurd (hx ▸ h'.2) hR) id
    · -- a record for another entity: the view of `e` stays, so it stays `Ready`, and so does its value
      rw [mutStep_vals_other tick c x wf (hnd x List.mem_cons_self) e k hplain (fun h' => hx h'.1.symm)]
      exact h.imp (fun h' => ⟨(List.mem_cons.mp h'.1).resolve_left (fun h'' => hx (by rw [← h'']; exact hre)),
        ready_of_view (vother e (fun he => hx he.symm)) h'.2⟩) id

end Replicon.Cli
