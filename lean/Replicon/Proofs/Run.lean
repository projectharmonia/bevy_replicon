import Replicon.Proofs.Server
import Replicon.Proofs.Visibility
/-
What one replication run does to the set of entities the server has a tick for and to the
visibility cells of one client, without any invariant.  In the order of a frame: acknowledgements,
`collect_despawns` (the loop over the despawn buffer, then `drain_lost`), `collect_changes`, and the
end of the frame (`register_mutate_message`, `visibility.update()`).
-/
namespace Replicon.Srv

/-- the entities the server has a tick for, for this client (the keys of `ClientTicks`' map of mutation ticks):
the entities it takes the client to hold -/
def keys (cl : Cli) : List Nat := cl.mutTick.map (·.1)

/-- one visibility cell per entity -/
def VisNodup (cl : Cli) : Prop := (cl.vis.map (·.1)).Nodup

theorem ackOne_rest (cl : Cli) (i : Nat) :
    ackOne cl i = { cl with mutTick := (ackOne cl i).mutTick, inflight := (ackOne cl i).inflight } := by
  unfold ackOne
  cases cl.inflight.find? (·.index = i) <;> rfl

theorem processAcks_rest (cl : Cli) :
    cl.processAcks = { cl with mutTick := cl.processAcks.mutTick, inflight := cl.processAcks.inflight, pendingAcks := [] } := by
  unfold Cli.processAcks
  split
  · rfl
  · rw [foldl_inv ackOne (fun c => c = { cl with mutTick := c.mutTick, inflight := c.inflight })
      (fun c i hc => by rw [ackOne_rest c i, hc]) cl.pendingAcks cl rfl]

theorem ackOne_keys (cl : Cli) (i j : Nat) : j ∈ keys (ackOne cl i) ↔ j ∈ keys cl := by
  cases h : cl.inflight.find? (·.index = i) with
  | none => rw [ackOne_unknown cl i h]
  | some info =>
    rw [ackOne_known cl i info h]
    unfold keys
    -- an acknowledged entity's tick is raised, not added or dropped
    rw [← aget_isSome_iff, ← aget_isSome_iff]
    show (aget (ackFold info cl.mutTick) j).isSome = true ↔ _
    rw [aget_ackFold]
    split
    · rw [Option.isSome_map]
    · rfl

theorem processAcks_keys (cl : Cli) (j : Nat) : j ∈ keys cl.processAcks ↔ j ∈ keys cl := by
  unfold Cli.processAcks
  split
  · exact Iff.rfl
  · exact foldl_inv ackOne (fun c => j ∈ keys c ↔ j ∈ keys cl) (fun c i hc => (ackOne_keys c i j).trans hc) _ cl Iff.rfl

theorem visNodup_setCell (cl : Cli) (e : Nat) (x : Vis.Cell) (h : VisNodup cl) : VisNodup (setCell cl e x) := by
  unfold VisNodup setCell
  split
  · exact nodup_adel _ _ h
  · exact nodup_aset _ _ _ h

theorem setCell_keys (cl : Cli) (e : Nat) (x : Vis.Cell) : (setCell cl e x).mutTick = cl.mutTick := rfl
theorem setCell_authorized (cl : Cli) (e : Nat) (x : Vis.Cell) : (setCell cl e x).authorized = cl.authorized := rfl
theorem setCell_updateTick (cl : Cli) (e : Nat) (c0 : Vis.Cell) : (setCell cl e c0).updateTick = cl.updateTick := rfl

theorem cell_map (f : Vis.Cell → Vis.Cell) (hf : f {} = {}) (cl cl' : Cli)
    (h : cl'.vis = cl.vis.map fun x => (x.1, f x.2)) (e : Nat) : cell cl' e = f (cell cl e) := by
  unfold cell
  rw [h, aget_map_snd]
  cases aget cl.vis e with
  | none => exact hf.symm
  | some c0 => rfl

theorem despawnStep_keys (s : Server) (acc : Cli × List Nat) (e j : Nat) :
    j ∈ keys (despawnStep s acc e).1 ↔ j ∈ keys acc.1 ∧ j ≠ e :=
  mem_map_fst_adel acc.1.mutTick e j

theorem despawnFold_spec (s : Server) (l : List Nat) (acc : Cli × List Nat) (hn : VisNodup acc.1) :
    VisNodup (l.foldl (despawnStep s) acc).1 ∧
    (∀ j, j ∈ keys (l.foldl (despawnStep s) acc).1 ↔ j ∈ keys acc.1 ∧ j ∉ l) ∧
    (∀ j, cell (l.foldl (despawnStep s) acc).1 j =
      if j ∈ l then Vis.removeDespawned s.white (cell acc.1 j) else cell acc.1 j) := by
  induction l generalizing acc with
  | nil => exact ⟨hn, fun j => by simp, fun j => by simp⟩
  | cons x xs ih =>
    obtain ⟨h1, h2, h3⟩ := ih (despawnStep s acc x) (visNodup_setCell acc.1 x _ hn)
    refine ⟨h1, fun j => ?_, fun j => ?_⟩
    · rw [List.foldl_cons, h2, despawnStep_keys, List.mem_cons, not_or, and_assoc]
    · rw [List.foldl_cons, h3, despawnStep_cell]
      by_cases hjx : j = x
      · subst hjx
        rw [if_pos rfl, if_pos List.mem_cons_self, Vis.removeDespawned_idem, ite_self]
      · rw [if_neg hjx]
        by_cases hm : j ∈ xs
        · rw [if_pos hm, if_pos (List.mem_cons_of_mem _ hm)]
        · rw [if_neg hm, if_neg fun h => (List.mem_cons.mp h).elim hjx hm]

/-- the cell of an entity after the despawn-buffer loop -/
def cellMid (s : Server) (cl : Cli) (e : Nat) : Vis.Cell :=
  if e ∈ s.despawnBuf then Vis.removeDespawned s.white (cell cl e) else cell cl e

theorem cellMid_of_mem (s : Server) (cl : Cli) {e : Nat} (h : e ∈ s.despawnBuf) :
    cellMid s cl e = Vis.removeDespawned s.white (cell cl e) := if_pos h

theorem cellMid_of_not_mem (s : Server) (cl : Cli) {e : Nat} (h : e ∉ s.despawnBuf) : cellMid s cl e = cell cl e := if_neg h

/-- the entities `drain_lost` reports -/
theorem mem_lost_list (w : Bool) (cl : Cli) (hn : VisNodup cl) (e : Nat) :
    e ∈ (cl.vis.filter fun (x : Nat × Vis.Cell) => Vis.lost w x.2).map (·.1) ↔ Vis.lost w (cell cl e) = true := by
  unfold cell
  rw [List.mem_map]
  constructor
  · rintro ⟨x, hx, rfl⟩
    rw [List.mem_filter] at hx
    rw [aget_of_mem_nodup cl.vis x.1 x.2 hn hx.1]
    exact hx.2
  · intro h
    cases hg : aget cl.vis e with
    | none => rw [hg, Option.getD_none, Vis.lost_default] at h; cases h
    | some c0 =>
      rw [hg] at h
      exact ⟨(e, c0), List.mem_filter.mpr ⟨mem_of_aget _ _ _ hg, h⟩, rfl⟩

theorem despawnPhase_spec (s : Server) (cl : Cli) (hn : VisNodup cl) :
    VisNodup (despawnPhase s cl).1 ∧
    (∀ e, cell (despawnPhase s cl).1 e = Vis.drainLost s.white (cellMid s cl e)) ∧
    (∀ e, e ∈ keys (despawnPhase s cl).1 ↔
      e ∈ keys cl ∧ e ∉ s.despawnBuf ∧ Vis.lost s.white (cellMid s cl e) = false) ∧
    (∀ e, e ∈ (despawnPhase s cl).2 → e ∈ s.despawnBuf ∨ Vis.lost s.white (cellMid s cl e) = true) ∧
    (∀ e, (e ∈ s.despawnBuf ∧ Vis.isVisible s.white (cell cl e) = true) ∨ Vis.lost s.white (cellMid s cl e) = true →
      e ∈ (despawnPhase s cl).2) := by
  obtain ⟨f1, f2, f3⟩ := despawnFold_spec s s.despawnBuf (cl, []) hn
  have f4 := fun e => despawnFold_out s e s.despawnBuf (cl, [])
  have f5 := fun e => despawnPhase_sends s cl e
  -- `R` is the state after the loop over the despawn buffer; `drain_lost` works on it
  rw [despawnPhase_eq] at f5 ⊢
  generalize s.despawnBuf.foldl (despawnStep s) (cl, []) = R at f1 f2 f3 f4 f5 ⊢
  have hlost : ∀ e, e ∈ (R.1.vis.filter fun (x : Nat × Vis.Cell) => Vis.lost s.white x.2).map (·.1) ↔
      Vis.lost s.white (cellMid s cl e) = true :=
    fun e => (mem_lost_list s.white R.1 f1 e).trans (by rw [f3 e]; rfl)
  unfold drainPhase at f5 ⊢
  refine ⟨?_, fun e => ?_, fun e => ?_, fun e he => ?_, fun e he => ?_⟩
  · show ((R.1.vis.map fun x => (x.1, Vis.drainLost s.white x.2)).map (·.1)).Nodup
    rw [List.map_map]
    exact f1
  · rw [cell_map _ (Vis.drainLost_default s.white) R.1 _ rfl, f3 e]
    rfl
  · show e ∈ (List.foldl adel R.1.mutTick _).map (·.1) ↔ _
    rw [mem_map_fst_foldl_adel, hlost, Bool.not_eq_true]
    exact (and_congr_left' (f2 e)).trans and_assoc
  · rcases List.mem_append.mp he with h | h
    · exact Or.inl ((f4 e h).resolve_left (by simp))
    · exact Or.inr ((hlost e).mp h)
  · rcases he with ⟨hm, hv⟩ | hl
    · exact f5 e hm hv
    · exact List.mem_append_right _ ((hlost e).mpr hl)

theorem runCl1_nodup (s : Server) (cl : Cli) (hn : VisNodup cl) : VisNodup (runCl1 s cl) :=
  (despawnPhase_spec s { cl with mappings := [] } hn).1

theorem cell_runCl1 (s : Server) (cl : Cli) (hn : VisNodup cl) (e : Nat) :
    cell (runCl1 s cl) e = Vis.drainLost s.white (cellMid s cl e) :=
  (despawnPhase_spec s { cl with mappings := [] } hn).2.1 e

theorem mem_keys_runCl1 (s : Server) (cl : Cli) (hn : VisNodup cl) (e : Nat) :
    e ∈ keys (runCl1 s cl) ↔ e ∈ keys cl ∧ e ∉ s.despawnBuf ∧ Vis.lost s.white (cellMid s cl e) = false :=
  (despawnPhase_spec s { cl with mappings := [] } hn).2.2.1 e

theorem runDespawns_out (s : Server) (cl : Cli) (hn : VisNodup cl) (e : Nat) (h : e ∈ runDespawns s cl) :
    e ∈ s.despawnBuf ∨ Vis.lost s.white (cellMid s cl e) = true :=
  (despawnPhase_spec s { cl with mappings := [] } hn).2.2.2.1 e h

theorem runDespawns_sends (s : Server) (cl : Cli) (hn : VisNodup cl) (e : Nat)
    (h : (e ∈ s.despawnBuf ∧ Vis.isVisible s.white (cell cl e) = true) ∨ Vis.lost s.white (cellMid s cl e) = true) :
    e ∈ runDespawns s cl :=
  (despawnPhase_spec s { cl with mappings := [] } hn).2.2.2.2 e h

theorem runClient_keys (s : Server) (thisRun : Nat) (cl : Cli) (e : Nat) :
    e ∈ keys (runClient s thisRun cl).1 ↔ e ∈ keys (runCl1 s cl) ∨ e ∈ runBumped s thisRun cl := by
  rw [runClient_eq]
  exact mem_map_fst_foldl_aset thisRun _ _ e

theorem mem_runBumped (s : Server) (thisRun : Nat) (cl : Cli) (e : Nat) :
    e ∈ runBumped s thisRun cl ↔
      ∃ ent m, (e, ent) ∈ s.world ∧ ent.marker = some m ∧ (collectEntity s thisRun (runCl1 s cl) e ent m).bump = true := by
  unfold runBumped
  rw [List.mem_map]
  constructor
  · rintro ⟨⟨e', o⟩, hm, rfl⟩
    rw [List.mem_filter] at hm
    obtain ⟨ent, m, h1, h2, rfl⟩ := (mem_entityOuts s thisRun _ e' o).mp hm.1
    exact ⟨ent, m, h1, h2, hm.2⟩
  · rintro ⟨ent, m, h1, h2, h3⟩
    exact ⟨(e, _), List.mem_filter.mpr ⟨(mem_entityOuts s thisRun _ e _).mpr ⟨ent, m, h1, h2, rfl⟩, h3⟩, rfl⟩

theorem collect_bump_visible (s : Server) (thisRun : Nat) (cl : Cli) (e : Nat) (ent : SEnt) (m : Nat)
    (h : (collectEntity s thisRun cl e ent m).bump = true) : visState s cl e ≠ .hidden := by
  intro hv
  rw [collect_hidden s thisRun cl e ent m hv] at h
  cases h

theorem mem_runChanged (s : Server) (thisRun : Nat) (cl : Cli) (e : Nat) :
    e ∈ runChanged s thisRun cl ↔
      ∃ ent m r, (e, ent) ∈ s.world ∧ ent.marker = some m ∧
        (collectEntity s thisRun (runCl1 s cl) e ent m).toUpdate = some r := by
  unfold runChanged
  rw [List.mem_map]
  constructor
  · rintro ⟨r, hm, rfl⟩
    obtain ⟨e', ent, m, h1, h2, hr⟩ := (mem_records s thisRun _ EntOut.toUpdate r).mp hm
    rw [toUpdate_ent s thisRun _ e' ent m r hr]
    exact ⟨ent, m, r, h1, h2, hr⟩
  · rintro ⟨ent, m, r, h1, h2, h3⟩
    exact ⟨r, (mem_records s thisRun _ EntOut.toUpdate r).mpr ⟨e, ent, m, h1, h2, h3⟩, toUpdate_ent s thisRun _ e ent m r h3⟩

theorem register_mutTick_vis (thisRun time : Nat) (parts : List (List Nat)) (cl : Cli) :
    (cl.register thisRun time parts).mutTick = cl.mutTick ∧ (cl.register thisRun time parts).vis = cl.vis := by
  rw [register_rest]
  exact ⟨rfl, rfl⟩

theorem visUpdate_nodup (w : Bool) (cl : Cli) (h : VisNodup cl) : VisNodup (cl.visUpdate w) := by
  unfold VisNodup Cli.visUpdate
  apply (List.filter_sublist.map _).nodup
  rw [List.map_map]
  exact h

theorem visUpdate_cell (w : Bool) (cl : Cli) (hn : VisNodup cl) (e : Nat) :
    cell (cl.visUpdate w) e = Vis.update w (cell cl e) := by
  show (aget ((cl.vis.map fun x => (x.1, Vis.update w x.2)).filter fun x => decide (x.2 ≠ {})) e).getD {} = _
  rw [aget_filter_snd (fun (c0 : Vis.Cell) => decide (c0 ≠ {})) _ e (by rw [List.map_map]; exact hn), aget_map_snd]
  unfold cell
  cases aget cl.vis e with
  | none => exact (Vis.update_default w).symm
  | some c0 => by_cases hd : Vis.update w c0 = {} <;> simp [Option.filter, hd]


/-- the client state at the end of a frame with a run -/
def afterRun (s : Server) (thisRun time : Nat) (parts : List (List Nat)) (cl : Cli) : Cli :=
  (((runClient s thisRun cl).1.register thisRun time parts).visUpdate s.white)

theorem afterRun_vis (s : Server) (thisRun time : Nat) (parts : List (List Nat)) (cl : Cli) :
    (afterRun s thisRun time parts cl).vis = ((runCl1 s cl).visUpdate s.white).vis := by
  unfold afterRun Cli.visUpdate
  rw [register_rest, runClient_eq]

theorem afterRun_mutTick (s : Server) (thisRun time : Nat) (parts : List (List Nat)) (cl : Cli) :
    (afterRun s thisRun time parts cl).mutTick =
      (runBumped s thisRun cl).foldl (fun mt e => aset mt e thisRun) (runCl1 s cl).mutTick := by
  unfold afterRun Cli.visUpdate
  rw [register_rest, runClient_eq]

theorem afterRun_keys (s : Server) (thisRun time : Nat) (parts : List (List Nat)) (cl : Cli) (e : Nat) :
    e ∈ keys (afterRun s thisRun time parts cl) ↔ e ∈ keys (runCl1 s cl) ∨ e ∈ runBumped s thisRun cl := by
  unfold keys
  rw [afterRun_mutTick]
  exact mem_map_fst_foldl_aset thisRun _ _ e

theorem mem_register_inflight (thisRun time : Nat) (parts : List (List Nat)) (cl : Cli) :
    ∀ i ∈ (cl.register thisRun time parts).inflight, i ∈ cl.inflight ∨ i.tick = thisRun := by
  unfold Cli.register
  refine foldl_inv _ (fun c : Cli => ∀ i ∈ c.inflight, i ∈ cl.inflight ∨ i.tick = thisRun) ?_ parts cl fun _ h => Or.inl h
  intro c ents hc i hi
  rcases List.mem_cons.mp hi with rfl | hi
  · exact Or.inr rfl
  · exact hc i (List.mem_filter.mp hi).1

theorem afterRun_inflight (s : Server) (thisRun time : Nat) (parts : List (List Nat)) (cl : Cli) :
    ∀ i ∈ (afterRun s thisRun time parts cl).inflight, i ∈ cl.inflight ∨ i.tick = thisRun := by
  intro i hi
  have h := mem_register_inflight thisRun time parts _ i hi
  rwa [runClient_rest] at h

theorem afterRun_authorized (s : Server) (thisRun time : Nat) (parts : List (List Nat)) (cl : Cli) :
    (afterRun s thisRun time parts cl).authorized = cl.authorized := by
  unfold afterRun Cli.visUpdate
  rw [register_rest, runClient_rest]

theorem afterRun_updateTick (s : Server) (thisRun time : Nat) (parts : List (List Nat)) (cl : Cli) :
    (afterRun s thisRun time parts cl).updateTick = (runClient s thisRun cl).1.updateTick := by
  unfold afterRun Cli.visUpdate
  rw [register_rest]

theorem afterRun_mappings (s : Server) (thisRun time : Nat) (parts : List (List Nat)) (cl : Cli) :
    (afterRun s thisRun time parts cl).mappings = [] := by
  unfold afterRun Cli.visUpdate
  rw [register_rest, runClient_rest]

end Replicon.Srv
