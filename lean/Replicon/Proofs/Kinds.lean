import Replicon.Proofs.Session
/-
Which replicated components an entity has, on the wire: the REMOVALS and CHANGES records of a
run, applied to the set of component kinds the receiver has for an entity, give exactly the
replicated kinds the server entity carries (`run_kinds_known`, `run_kinds_new`).  Then the invariant
that makes the one-run theorem applicable after any history: `KindInv`, facts about Bevy's change
ticks in the model (what `buffer_removals` buffers, as a fold; every operation and frame keeps it).
(The component level of C03, server side.)
-/
namespace Replicon.Srv

def presentKinds (s : Server) (ent : SEnt) : List Nat := (present s ent).map (·.1)

theorem mem_present (s : Server) (ent : SEnt) (k : Nat) (r : Rate) (c : Comp) :
    (k, r, c) ∈ present s ent ↔ (k, r) ∈ s.rates ∧ aget ent.comps k = some c := by
  unfold present
  rw [List.mem_filterMap]
  constructor
  · rintro ⟨⟨k', r'⟩, hm, h⟩
    simp only at h
    cases hg : aget ent.comps k' with
    | none => rw [hg] at h; cases h
    | some c' =>
      rw [hg] at h
      simp only [Option.map_some, Option.some.injEq, Prod.mk.injEq] at h
      obtain ⟨rfl, rfl, rfl⟩ := h
      exact ⟨hm, hg⟩
  · rintro ⟨hm, hg⟩
    exact ⟨(k, r), hm, by simp only [hg]; rfl⟩

theorem mem_presentKinds (s : Server) (ent : SEnt) (k : Nat) :
    k ∈ presentKinds s ent ↔ ∃ r c, (k, r, c) ∈ present s ent := by
  unfold presentKinds
  rw [List.mem_map]
  constructor
  · rintro ⟨⟨k', r, c⟩, hm, rfl⟩; exact ⟨r, c, hm⟩
  · rintro ⟨r, c, hm⟩; exact ⟨(k, r, c), hm, rfl⟩

def recordKinds (o : EntOut) : List Nat :=
  match o.toUpdate with
  | some r => r.comps.map (·.1)
  | none => []

theorem mem_recordKinds (o : EntOut) (k : Nat) :
    k ∈ recordKinds o ↔ ∃ r, o.toUpdate = some r ∧ k ∈ r.comps.map (·.1) := by
  unfold recordKinds
  cases o.toUpdate with
  | none => exact ⟨fun h => (nomatch h), fun ⟨_, h, _⟩ => (nomatch h)⟩
  | some r => exact ⟨fun h => ⟨r, rfl, h⟩, fun ⟨_, h, hk⟩ => Option.some.inj h ▸ hk⟩

theorem recordKinds_sub_present (s : Server) (thisRun : Nat) (cl : Cli) (e : Nat) (ent : SEnt) (m k : Nat)
    (h : k ∈ recordKinds (collectEntity s thisRun cl e ent m)) : k ∈ presentKinds s ent := by
  obtain ⟨r, hr, hk⟩ := (mem_recordKinds _ k).mp h
  rw [(collect_toUpdate_some hr).record, List.map_append, List.mem_append] at hk
  rcases hk with hk | hk <;> exact (sentOn_keys_sublist _ _ _ _ _).subset hk

/-- one run, an entity the client holds; `S` are the kinds the receiver has for it -/
theorem run_kinds_known (s : Server) (thisRun : Nat) (cl : Cli) (e : Nat) (ent : SEnt) (m t : Nat) (S : List Nat)
    (hvis : visState s cl e = .visible) (hk : aget cl.mutTick e = some t) (hold : ¬ m > s.lastRun)
    (ha : ∀ k ∈ S, k ∉ presentKinds s ent → k ∈ (aget s.removalBuf e).getD [])
    (hb : ∀ k r c, (k, r, c) ∈ present s ent → k ∉ S → c.added > s.lastRun)
    (hf : ∀ k r c, k ∈ (aget s.removalBuf e).getD [] → (k, r, c) ∈ present s ent → c.added > s.lastRun) :
    ∀ k, k ∈ (S.filter fun k => !((aget s.removalBuf e).getD []).contains k) ++
          recordKinds (collectEntity s thisRun cl e ent m) ↔ k ∈ presentKinds s ent := by
  intro k
  have hins : ∀ r c, (k, r, c) ∈ present s ent → c.added > s.lastRun →
      k ∈ recordKinds (collectEntity s thisRun cl e ent m) := by
    intro r c hp hadd
    have hx : (k, c.val) ∈ insOf s t ent := by
      rw [insOf_eq]
      exact mem_sentOn.mpr ⟨r, c, hp, (compPath_known_insertion s t r c).mpr hadd, rfl⟩
    rw [mem_recordKinds, collect_known s thisRun cl e ent m t hvis hk hold]
    rcases entOut_mem e false (aget s.removalBuf e).isSome (List.mem_append_left (mutOf s t ent) hx) with
      ⟨r', hr, hxr⟩ | ⟨hnil, _⟩
    · exact ⟨r', hr, List.mem_map_of_mem (f := (·.1)) hxr⟩
    · rw [hnil] at hx; cases hx
  rw [List.mem_append, List.mem_filter_not_contains]
  -- `diff_apply` for kinds: `A` the kinds the receiver has, `B` the present ones, `D` the buffered removals, `C` the record's
  refine diff_apply k (ha k) (fun hp hS => ?_) (fun hrm hp => ?_) (recordKinds_sub_present s thisRun cl e ent m k)
  · obtain ⟨r, c, hpr⟩ := (mem_presentKinds s ent k).mp hp
    exact hins r c hpr (hb k r c hpr hS)
  · obtain ⟨r, c, hpr⟩ := (mem_presentKinds s ent k).mp hp
    exact hins r c hpr (hf k r c hrm hpr)

theorem run_kinds_new (s : Server) (thisRun : Nat) (cl : Cli) (e : Nat) (ent : SEnt) (m : Nat)
    (hvis : visState s cl e ≠ .hidden) (hk : aget cl.mutTick e = none) :
    recordKinds (collectEntity s thisRun cl e ent m) = presentKinds s ent := by
  unfold recordKinds presentKinds
  rw [collect_unknown_whole s thisRun cl e ent m hvis hk]
  simp only [List.map_map]
  rfl

/-- "pending kind": a removal of kind `k` of entity `e` is on its way to the clients, as an event of
this or the previous frame or in the removal buffer -/
def pendK (s : Server) (e k : Nat) : Prop :=
  (e, k) ∈ s.pendingRem ∨ (e, k) ∈ s.pendingRemOld ∨ k ∈ (aget s.removalBuf e).getD []

/-- Facts about Bevy's change ticks in the server model.  `tlt`: the last run's tick lies before the
current one ("tick less than").  `stamps`: no stamp is in the future.  `remFresh`: a component that is
present although a removal of its kind is still on its way was inserted again after that removal, so it
is stamped after the last run and the next run sends it as an insertion. -/
structure KindInv (s : Server) : Prop where
  tlt : s.lastRun < s.now
  stamps : ∀ e ent, (e, ent) ∈ s.world →
    (∀ k c, aget ent.comps k = some c → c.added ≤ s.now) ∧ (∀ m, ent.marker = some m → m ≤ s.now)
  remFresh : ∀ e ent k c, (e, ent) ∈ s.world → pendK s e k → aget ent.comps k = some c → c.added > s.lastRun
  remNodup : (s.removalBuf.map (·.1)).Nodup

theorem pendK_putEnt (s : Server) (e : Nat) (ent' : SEnt) (rem : List Nat) (e' k : Nat) :
    pendK (s.putEnt e ent' rem) e' k ↔ pendK s e' k ∨ (e' = e ∧ k ∈ rem) := by
  unfold pendK Server.putEnt
  simp only [List.mem_append, List.mem_map, Prod.mk.injEq]
  constructor
  · rintro ((h | ⟨k', hk', rfl, rfl⟩) | h)
    · exact Or.inl (Or.inl h)
    · exact Or.inr ⟨rfl, hk'⟩
    · exact Or.inl (Or.inr h)
  · rintro ((h | h) | ⟨rfl, h⟩)
    · exact Or.inl (Or.inl h)
    · exact Or.inr h
    · exact Or.inl (Or.inr ⟨k, h, rfl, rfl⟩)

theorem putEnt_kind (s : Server) (inv : KindInv s) (e : Nat) (ent ent' : SEnt) (rem : List Nat)
    (hg : aget s.world e = some ent) (hc : CompsStep s.now ent.comps ent'.comps rem)
    (hm : ∀ m, ent'.marker = some m → ent.marker = some m ∨ m = s.now) : KindInv (s.putEnt e ent' rem) := by
  have hw := mem_of_aget _ _ _ hg
  refine ⟨inv.tlt, ?_, ?_, inv.remNodup⟩
  · intro e' x hx
    rcases (mem_aset _ _ _ _).mp hx with h | ⟨h, _⟩
    · obtain ⟨_, rfl⟩ := Prod.mk.inj h
      refine ⟨fun k c hk => ?_, fun m hmm => ?_⟩
      · rcases hc.stamp k c hk with ⟨c0, h0, he⟩ | h'
        · rw [← he]; exact (inv.stamps e ent hw).1 k c0 h0
        · exact Nat.le_of_eq h'
      · rcases hm m hmm with h' | h'
        · exact (inv.stamps e ent hw).2 m h'
        · exact Nat.le_of_eq h'
    · exact inv.stamps e' x h
  · intro e' x k c hx hp hk
    rcases (mem_aset _ _ _ _).mp hx with h | ⟨h, hne⟩
    · obtain ⟨rfl, rfl⟩ := Prod.mk.inj h
      rcases hc.stamp k c hk with ⟨c0, h0, he⟩ | h'
      · rcases (pendK_putEnt s e' x rem e' k).mp hp with hp' | ⟨_, hr⟩
        · rw [← he]; exact inv.remFresh e' ent k c0 hw hp' h0
        · rw [hc.gone k hr] at hk; cases hk
      · rw [h']; exact inv.tlt
    · rcases (pendK_putEnt s e ent' rem e' k).mp hp with hp' | ⟨he, _⟩
      · exact inv.remFresh e' x k c h hp' hk
      · exact absurd he hne

theorem leave_kind (s : Server) (e : Nat) (inv : KindInv s) : KindInv (s.leaveReplication e) := by
  cases hr : s.running with
  | false => rw [leave_stopped s e hr]; exact inv
  | true =>
    rw [leave_running s e hr]
    refine ⟨inv.tlt, inv.stamps, ?_, nodup_adel _ _ inv.remNodup⟩
    intro e' x k c hx hp hk
    refine inv.remFresh e' x k c hx ?_ hk
    rcases hp with h | h | h
    · exact Or.inl h
    · exact Or.inr (Or.inl h)
    · have h' : k ∈ (aget (adel s.removalBuf e) e').getD [] := h
      rw [aget_adel] at h'
      split at h'
      · cases h'
      · exact Or.inr (Or.inr h')

theorem delEnt_kind (s : Server) (e : Nat) (inv : KindInv s) : KindInv { s with world := adel s.world e } :=
  ⟨inv.tlt, fun e' x hx => inv.stamps e' x ((mem_adel _ _ _).mp hx).1,
   fun e' x k c hx hp hk => inv.remFresh e' x k c ((mem_adel _ _ _).mp hx).1 hp hk, inv.remNodup⟩

theorem WorldOp.kind {s s' : Server} (h : WorldOp s s') (inv : KindInv s) : KindInv s' := by
  cases h with
  | none => exact inv
  | comps e ent cs rem hg hc => exact putEnt_kind s inv e ent _ rem hg hc (fun _ h => Or.inl h)
  | markOn e ent hg _ =>
    exact putEnt_kind s inv e ent _ [] hg (CompsStep.refl _ _) (fun _ h => Or.inr (Option.some.inj h).symm)
  | markOff e ent hg _ =>
    exact putEnt_kind _ (leave_kind s e inv) e ent _ [] (by rw [leave_world]; exact hg) (CompsStep.refl _ _)
      (fun _ h => nomatch h)
  | despawn e ent hg =>
    split
    · exact delEnt_kind _ e (leave_kind s e inv)
    · exact delEnt_kind s e inv

theorem KindInv.transport {s s' : Server} (inv : KindInv s) (h1 : s'.lastRun = s.lastRun) (h2 : s.now ≤ s'.now)
    (h3 : s'.world = s.world) (hp : ∀ e k, pendK s' e k → pendK s e k) (hn : (s'.removalBuf.map (·.1)).Nodup) :
    KindInv s' := by
  refine ⟨by rw [h1]; exact Nat.lt_of_lt_of_le inv.tlt h2, ?_, ?_, hn⟩
  · intro e x hx
    rw [h3] at hx
    exact ⟨fun k c hk => Nat.le_trans ((inv.stamps e x hx).1 k c hk) h2,
      fun m hm => Nat.le_trans ((inv.stamps e x hx).2 m hm) h2⟩
  · intro e x k c hx hp' hk
    rw [h3] at hx
    rw [h1]
    exact inv.remFresh e x k c hx (hp e k hp') hk

theorem KindInv.transport_clients {s : Server} (inv : KindInv s) (cs : List (Nat × Cli)) (r : Bool) :
    KindInv { s with clients := cs, running := r } :=
  ⟨inv.tlt, inv.stamps, inv.remFresh, inv.remNodup⟩

theorem updClient_kind (s : Server) (c : Nat) (f : Cli → Cli) (inv : KindInv s) : KindInv (s.updClient c f) := by
  rw [updClient_rest]
  exact inv.transport_clients _ _

theorem bufStep_spec (s : Server) (buf : List (Nat × List Nat)) (x : Nat × Nat) (e k : Nat) :
    k ∈ (aget (bufStep s buf x) e).getD [] ↔
      k ∈ (aget buf e).getD [] ∨ (e = x.1 ∧ k = x.2 ∧ bufCond s x.1 x.2) := by
  by_cases hc : bufCond s x.1 x.2
  · rw [bufStep_of_cond buf hc]
    split
    · rename_i ho
      refine ⟨Or.inl, fun h => h.elim id ?_⟩
      rintro ⟨rfl, rfl, _⟩
      exact List.contains_iff_mem.mp ho
    · rw [aget_aset]
      split
      · rename_i he
        rw [he, Option.getD_some, List.mem_append, List.mem_singleton]
        exact or_congr_right ⟨fun h => ⟨rfl, h, hc⟩, fun h => h.2.1⟩
      · rename_i he
        exact ⟨Or.inl, fun h => h.resolve_right fun h' => he h'.1⟩
  · rw [bufStep_of_not buf hc]
    exact ⟨Or.inl, fun h => h.resolve_right fun h' => hc h'.2.2⟩

theorem bufStep_nodup (s : Server) (buf : List (Nat × List Nat)) (x : Nat × Nat) (h : (buf.map (·.1)).Nodup) :
    ((bufStep s buf x).map (·.1)).Nodup := by
  by_cases hc : bufCond s x.1 x.2
  · rw [bufStep_of_cond buf hc]
    split
    · exact h
    · exact nodup_aset _ _ _ h
  · rw [bufStep_of_not buf hc]
    exact h

theorem bufFold_spec (s : Server) : ∀ (l : List (Nat × Nat)) (buf : List (Nat × List Nat)) (e k : Nat),
    k ∈ (aget (l.foldl (bufStep s) buf) e).getD [] ↔
      k ∈ (aget buf e).getD [] ∨ ((e, k) ∈ l ∧ bufCond s e k) := by
  intro l
  induction l with
  | nil => exact fun _ _ _ => ⟨Or.inl, fun h => h.resolve_right fun h' => nomatch h'.1⟩
  | cons x xs ih =>
    intro buf e k
    rw [List.foldl_cons, ih, bufStep_spec, List.mem_cons, or_assoc]
    refine or_congr_right ⟨?_, ?_⟩
    · rintro (⟨rfl, rfl, h3⟩ | ⟨h1, h2⟩)
      · exact ⟨Or.inl rfl, h3⟩
      · exact ⟨Or.inr h1, h2⟩
    · rintro ⟨rfl | h1, h2⟩
      · exact Or.inl ⟨rfl, rfl, h2⟩
      · exact Or.inr ⟨h1, h2⟩

theorem spawn_kind (s : Server) (e : Nat) (m : Bool) (cs : List (Nat × Nat)) (inv : KindInv s) :
    KindInv (s.spawn e m cs) := by
  unfold Server.spawn
  have hcomp : ∀ k c, aget (cs.map fun (x : Nat × Nat) => (x.1, ({ val := x.2, added := s.now, changed := s.now } : Comp))) k = some c →
      c.added = s.now := by
    intro k c h
    obtain ⟨x, _, hx⟩ := List.mem_map.mp (mem_of_aget _ _ _ h)
    rw [← (Prod.mk.inj hx).2]
  refine ⟨inv.tlt, fun e' x hx => ?_, fun e' x k c hx hp hk => ?_, inv.remNodup⟩
  · rcases (mem_aset _ _ _ _).mp hx with h | ⟨h, _⟩
    · obtain ⟨_, rfl⟩ := Prod.mk.inj h
      refine ⟨fun k c hk => Nat.le_of_eq (hcomp k c hk), fun mm hm => ?_⟩
      split at hm
      · exact Nat.le_of_eq (Option.some.inj hm).symm
      · cases hm
    · exact inv.stamps e' x h
  · rcases (mem_aset _ _ _ _).mp hx with h | ⟨h, _⟩
    · obtain ⟨_, rfl⟩ := Prod.mk.inj h
      rw [hcomp k c hk]
      exact inv.tlt
    · exact inv.remFresh e' x k c h hp hk

theorem preRun_kind (s : Server) (ticked : Bool) (ms : Nat) (hr : s.running = true) (inv : KindInv s) :
    KindInv (preRun s ticked ms) := by
  rw [preRun_eq]
  refine inv.transport rfl (Nat.le_refl _) rfl (fun e k hp => ?_) ?_
  · -- the removal events have moved into the buffer
    rcases hp with h | h | h
    · cases h
    · rw [show (_ : Server).pendingRemOld = _ from if_pos hr] at h; cases h
    · rw [show (_ : Server).removalBuf = _ from if_pos hr] at h
      rcases (bufFold_spec s _ _ e k).mp h with h' | ⟨h', _⟩
      · exact Or.inr (Or.inr h')
      · rcases List.mem_append.mp h' with h'' | h''
        · exact Or.inr (Or.inl h'')
        · exact Or.inl h''
  · rw [show (_ : Server).removalBuf = _ from if_pos hr]
    exact foldl_inv (bufStep s) (fun buf => (buf.map (·.1)).Nodup) (bufStep_nodup s) _ _ inv.remNodup

theorem fullFrame_kind (s : Server) (ticked : Bool) (ms : Nat) (parts : Nat → List (List Nat)) (inv : KindInv s) :
    KindInv (s.fullFrame ticked ms parts) := by
  cases hr : s.running with
  | false =>
    rw [fullFrame_of_stopped s ticked ms parts hr]
    -- the removal events age by one frame; a just stopped server forgets its buffer
    cases s.lastRunning
    · refine inv.transport rfl (Nat.le_add_right _ _) rfl (fun e k hp => ?_) inv.remNodup
      rcases hp with h | h | h
      · cases h
      · exact Or.inl h
      · exact Or.inr (Or.inr h)
    · refine inv.transport rfl (Nat.le_add_right _ _) rfl (fun e k hp => ?_) List.nodup_nil
      rcases hp with h | h | h
      · cases h
      · exact Or.inl h
      · cases h
  | true =>
    have invp := preRun_kind s ticked ms hr inv
    cases hc : (preRun s ticked ms).tickChanged with
    | false =>
      rw [fullFrame_of_idle s ticked ms parts hr hc]
      exact invp.transport rfl (Nat.le_add_right _ _) rfl (fun _ _ hp => hp) invp.remNodup
    | true =>
      rw [fullFrame_of_ran s ticked ms parts hr hc]
      have p6 : (preRun s ticked ms).pendingRem = [] := by rw [preRun_eq]
      have p7 : (preRun s ticked ms).pendingRemOld = [] := by rw [preRun_eq]; exact if_pos hr
      -- nothing is pending after a run
      refine ⟨Nat.lt_succ_self _, fun e x hx => ?_, fun e x k c _ hp _ => ?_, List.nodup_nil⟩
      · exact ⟨fun k c hk => Nat.le_trans ((invp.stamps e x hx).1 k c hk) (Nat.le_add_right _ _),
          fun m hm => Nat.le_trans ((invp.stamps e x hx).2 m hm) (Nat.le_add_right _ _)⟩
      · rcases hp with h | h | h
        · rw [show (ranFrame _ parts).pendingRem = _ from p6] at h; cases h
        · rw [show (ranFrame _ parts).pendingRemOld = _ from p7] at h; cases h
        · cases h

theorem kind_empty (s : Server) (hw : s.world = []) (hb : s.removalBuf = []) (ht : s.lastRun < s.now) : KindInv s := by
  refine ⟨ht, ?_, ?_, by rw [hb]; exact List.nodup_nil⟩
  · intro e x hx; rw [hw] at hx; cases hx
  · intro e x k c hx; rw [hw] at hx; cases hx

end Replicon.Srv

namespace Replicon.Joint
open Replicon.Srv

theorem kind_step (st : St) (op : Op) (inv : KindInv st.srv) : KindInv (step st op).1.srv := by
  cases op with
  | spawn e m cs => exact spawn_kind st.srv e m cs inv
  | vis c e b => exact updClient_kind st.srv c _ inv
  | map c e p => exact updClient_kind st.srv c _ inv
  | connect c a => exact inv.transport_clients _ _
  | authorize c => exact updClient_kind st.srv c _ inv
  | disconnect c => exact inv.transport_clients _ _
  | stop => exact inv.transport_clients _ _
  | start => exact inv.transport_clients _ _
  | ack c idxs => exact updClient_kind st.srv c _ inv
  | emit em => exact inv
  | frame t ms parts => exact fullFrame_kind st.srv t ms parts inv
  -- `despawn`, `insert`, `mutate`, `remove`, `mark`
  | _ => exact (step_worldOp st _ rfl).kind inv

end Replicon.Joint
