import Replicon.Model.ProtocolHash
/-
C14: the FNV prime is odd, hence invertible mod 2^64, so every step is injective in the running hash
and in the byte; the registration stream has a parser, so its encoding is injective.  Together:
inputs that differ in one byte hash differently (`protocolHash_single_byte`).
-/

namespace Replicon.Proto

/-- multiplicative inverse of the FNV prime modulo 2^64 (the prime is odd) -/
def fnvPrimeInv : BitVec 64 := BitVec.ofNat 64 14886173955864302971

theorem prime_mul_inv : BitVec.ofNat 64 Consts.fnvPrime * fnvPrimeInv = 1#64 := by decide

theorem mul_prime_mul_inv (a : BitVec 64) : a * BitVec.ofNat 64 Consts.fnvPrime * fnvPrimeInv = a := by
  rw [BitVec.mul_assoc, prime_mul_inv, BitVec.mul_one]

theorem mul_prime_inj (a b : BitVec 64)
    (h : a * BitVec.ofNat 64 Consts.fnvPrime = b * BitVec.ofNat 64 Consts.fnvPrime) : a = b := by
  rw [← mul_prime_mul_inv a, h, mul_prime_mul_inv]

theorem fnvStep_inj (h h' : BitVec 64) (b : Nat) (e : fnvStep h b = fnvStep h' b) : h = h' :=
  (BitVec.xor_left_inj _).mp (mul_prime_inj _ _ e)

theorem fnvStep_byte_inj (h : BitVec 64) (b b' : Nat) (e : fnvStep h b = fnvStep h b') :
    b % 256 = b' % 256 := by
  have h2 := congrArg BitVec.toNat ((BitVec.xor_right_inj _).mp (mul_prime_inj _ _ e))
  rw [BitVec.toNat_ofNat, BitVec.toNat_ofNat] at h2
  have lt256 : ∀ x : Nat, x % 256 % 2 ^ 64 = x % 256 := fun x =>
    Nat.mod_eq_of_lt (Nat.lt_trans (Nat.mod_lt x (by decide)) (by decide))
  rw [lt256, lt256] at h2
  exact h2

theorem fnv_cons (b : Nat) (bs : List Nat) (h : BitVec 64) : fnv (b :: bs) h = fnv bs (fnvStep h b) := by
  unfold fnv; rw [List.foldl_cons]

theorem fnv_inj (bs : List Nat) : ∀ (h h' : BitVec 64), fnv bs h = fnv bs h' → h = h' := by
  induction bs with
  | nil => exact fun _ _ e => e
  | cons b bs ih =>
    intro h h' e
    rw [fnv_cons, fnv_cons] at e
    exact fnvStep_inj _ _ b (ih _ _ e)

theorem fnv_append (xs ys : List Nat) (h : BitVec 64) : fnv (xs ++ ys) h = fnv ys (fnv xs h) := by
  unfold fnv; rw [List.foldl_append]

theorem fnv_single_byte (pre suf : List Nat) (b b' : Nat) (h : BitVec 64) (hne : b % 256 ≠ b' % 256) :
    fnv (pre ++ b :: suf) h ≠ fnv (pre ++ b' :: suf) h := by
  intro e
  rw [fnv_append, fnv_append, fnv_cons, fnv_cons] at e
  exact hne (fnvStep_byte_inj _ _ _ (fnv_inj suf _ _ e))

/-- `n` bytes little endian, and the number a list of bytes stands for. -/
def leBytes : Nat → Nat → List Nat
  | 0, _ => []
  | n + 1, p => p % 256 :: leBytes n (p / 256)

def ofLeBytes : List Nat → Nat
  | [] => 0
  | b :: bs => b + 256 * ofLeBytes bs

theorem u64le_eq (p : Nat) : u64le p = leBytes 8 p := by
  simp only [u64le, leBytes, Nat.div_div_eq_div_mul, Nat.reduceMul]

theorem ofLeBytes_leBytes (n p : Nat) (h : p < 256 ^ n) : ofLeBytes (leBytes n p) = p := by
  induction n generalizing p with
  | zero => exact (Nat.lt_one_iff.mp h).symm
  | succ n ih =>
    rw [Nat.pow_succ] at h
    rw [leBytes, ofLeBytes, ih _ ((Nat.div_lt_iff_lt_mul (by decide)).mpr h)]
    exact Nat.mod_add_div p 256

/-- The bytes of a `Replicate` registration: all of the priority above its low byte is in the
tail. -/
theorem encodeReg_replicate (p : Nat) (name : List Nat) :
    encodeReg { kind := 0, priority := p, name := name }
      = [0] ++ p % 256 :: (leBytes 7 (p / 256) ++ name ++ [255]) := by
  unfold encodeReg
  rw [if_pos rfl, u64le_eq]
  rfl

theorem encodeReg_other (k p : Nat) (name : List Nat) (hk : k ≠ 0) :
    encodeReg { kind := k, priority := p, name := name } = k :: (name ++ [255]) := by
  unfold encodeReg
  rw [if_neg hk]
  rfl

theorem encodeSeq_cons (r : Reg) (rs : List Reg) : encodeSeq (r :: rs) = encodeReg r ++ encodeSeq rs :=
  List.flatMap_cons

theorem encodeSeq_append (xs ys : List Reg) : encodeSeq (xs ++ ys) = encodeSeq xs ++ encodeSeq ys :=
  List.flatMap_append

theorem protocolHash_single_byte (rs rs' : List Reg) (pre suf : List Nat) (b b' : Nat)
    (h : encodeSeq rs = pre ++ b :: suf) (h' : encodeSeq rs' = pre ++ b' :: suf)
    (hne : b % 256 ≠ b' % 256) : protocolHash rs ≠ protocolHash rs' := by
  unfold protocolHash
  rw [h, h']
  exact fun e => fnv_single_byte pre suf b b' _ hne (BitVec.eq_of_toNat_eq e)

/-- Split at the first `0xff` byte. -/
def splitName : List Nat → List Nat × List Nat
  | [] => ([], [])
  | b :: bs => if b = 255 then ([], b :: bs) else ((b :: (splitName bs).1), (splitName bs).2)

/-- Parser for one registration (the inverse of `encodeReg`). -/
def decodeReg (bs : List Nat) : Option (Reg × List Nat) :=
  match bs with
  | [] => none
  | k :: rest =>
    if k = 0 then
      match rest with
      | b0 :: b1 :: b2 :: b3 :: b4 :: b5 :: b6 :: b7 :: rest' =>
        let p := ofLeBytes [b0, b1, b2, b3, b4, b5, b6, b7]
        match (splitName rest').2 with
        | _ :: r' => some ({ kind := 0, priority := p, name := (splitName rest').1 }, r')
        | [] => none
      | _ => none
    else
      match (splitName rest).2 with
      | _ :: r' => some ({ kind := k, priority := 0, name := (splitName rest).1 }, r')
      | [] => none

theorem splitName_append (name rest : List Nat) (hn : ∀ b ∈ name, b < 255) :
    splitName (name ++ 255 :: rest) = (name, 255 :: rest) := by
  induction name with
  | nil => rw [List.nil_append, splitName, if_pos rfl]
  | cons x xs ih =>
    rw [List.cons_append, splitName, if_neg (Nat.ne_of_lt (hn x List.mem_cons_self)),
      ih fun b hb => hn b (List.mem_cons_of_mem _ hb)]

theorem Reg.WF.priority_lt {r : Reg} (wf : r.WF) : r.priority < 18446744073709551616 := wf.2.1
theorem Reg.WF.priority_zero {r : Reg} (wf : r.WF) : r.kind ≠ 0 → r.priority = 0 := wf.2.2.1
theorem Reg.WF.name_lt {r : Reg} (wf : r.WF) : ∀ b ∈ r.name, b < 255 := wf.2.2.2

theorem decodeReg_encode (r : Reg) (rest : List Nat) (wf : r.WF) :
    decodeReg (encodeReg r ++ rest) = some (r, rest) := by
  obtain ⟨kind, priority, name⟩ := r
  by_cases hk : kind = 0
  · subst hk
    rw [encodeReg_replicate]
    simp only [leBytes, List.cons_append, List.append_assoc, List.nil_append]
    unfold decodeReg
    simp only [if_true]
    rw [splitName_append name rest wf.name_lt]
    exact congrArg (fun p => some (Reg.mk 0 p name, rest)) (ofLeBytes_leBytes 8 priority wf.priority_lt)
  · obtain rfl : priority = 0 := wf.priority_zero hk
    rw [encodeReg_other _ _ _ hk, List.cons_append, List.append_assoc]
    unfold decodeReg
    dsimp only
    rw [if_neg hk, List.singleton_append, splitName_append name rest wf.name_lt]

end Replicon.Proto
