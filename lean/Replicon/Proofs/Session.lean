import Replicon.Proofs.ClientSync
/-
The composition along a session: the update messages the server sends one client in its session,
applied in order by the client model starting from a fresh client, over ALL histories of the
joint server model.
-/
namespace Replicon.Cli
open Replicon.Srv

theorem applyMutEnt_keeps (c : Client) (tick : Nat) (m : MsgEnt) (wf : WF c) (c' : Client)
    (h : applyMutEnt c tick m = .ok c') : Keeps c c' := by
  rcases applyMutEnt_atomic c tick m c' h with rfl | ⟨ce, _, _, _, _, rfl⟩
  · exact Keeps.refl _ wf
  · have k1 := confirm_keeps c ce tick wf
    exact k1.trans (writeComps_keeps ce m.comps _ k1.wf)

theorem applyMutate_keeps (c : Client) (m : Mutate) (wf : WF c) : Keeps c (applyMutate c m) :=
  applyMutate_inv (Keeps c) m (fun c1 e c' h hr => h.trans (applyMutEnt_keeps c1 m.tick e h.wf c' hr)) c (Keeps.refl c wf)

/-- what reaches a client: update messages (reliable, ordered) and whatever the unreliable
channel delivers — any mutate messages, any number of times, in any order, anywhere in between -/
inductive Arrival where
  | upd (u : Update)
  | mutate (m : Mutate)

/-- the client after the arrivals, in their order -/
def runArrivals (c : Client) : List Arrival → Client
  | [] => c
  | .upd u :: rest => runArrivals (applyUpdate c u) rest
  | .mutate m :: rest => runArrivals (applyMutate c m) rest

/-- the update messages among the arrivals -/
def updatesOf : List Arrival → List Update
  | [] => []
  | .upd u :: rest => u :: updatesOf rest
  | .mutate _ :: rest => updatesOf rest

theorem msgOk_transfer (c1 c2 : Client) (u : Update) (hh : ∀ se, held c1 se ↔ held c2 se) (h : MsgOk c2 u) : MsgOk c1 u := by
  refine ⟨h.mappings, fun r hr => ?_⟩
  rcases h.removals r hr with ⟨a, b⟩ | a
  · exact Or.inl ⟨(hh r.1).mpr a, b⟩
  · exact Or.inr a

end Replicon.Cli

namespace Replicon.Joint
open Replicon.Srv Replicon.Cli

/-- `LegalOp'`, and no pre-spawn mapping is registered (C16's subject): the histories of the session
theorems and of C09 -/
def LegalOp2 (s : Server) : Op → Prop
  | .map _ _ _ => False
  | op => LegalOp' s op

/-- `Legal` with `LegalOp2` -/
def Legal2 : St → List Op → Prop
  | _, [] => True
  | st, op :: ops => LegalOp2 st.srv op ∧ Legal2 (step st op).1 ops

instance (s : Server) (op : Op) : Decidable (LegalOp2 s op) := by
  cases op <;> unfold LegalOp2 <;> infer_instance

def decLegal2 : ∀ (st : St) (ops : List Op), Decidable (Legal2 st ops)
  | _, [] => isTrue trivial
  | st, op :: ops =>
    match (inferInstance : Decidable (LegalOp2 st.srv op)), decLegal2 (step st op).1 ops with
    | isTrue h1, isTrue h2 => isTrue ⟨h1, h2⟩
    | isFalse h1, _ => isFalse fun h => h1 h.1
    | _, isFalse h2 => isFalse fun h => h2 h.2

instance (st : St) (ops : List Op) : Decidable (Legal2 st ops) := decLegal2 st ops

theorem legalOp'_of_2 (s : Server) (op : Op) (h : LegalOp2 s op) : LegalOp' s op := by
  cases op <;> first | exact h | trivial

/-- ghost: the update messages sent to each client since it connected, oldest first -/
abbrev Log := Nat → List Update

def logStep (st : St) (log : Log) : Op → Log
  | .connect c _ => fun x => if x = c then [] else log x
  | .frame t ms parts =>
    fun x => match aget (frame st t ms parts).2.1 x with
      | some o => (match o.update with | some u => log x ++ [u] | none => log x)
      | none => log x
  | _ => log

def runLog : St → Log → List Op → St × Log
  | st, log, [] => (st, log)
  | st, log, op :: ops => runLog (step st op).1 (logStep st log op) ops

theorem runLog_fst : ∀ (ops : List Op) (st : St) (log : Log), (runLog st log ops).1 = (run st ops).1 := by
  intro ops
  induction ops with
  | nil => intro st log; rfl
  | cons op ops ih => intro st log; exact ih _ _

theorem runLog_snd_append (op : Op) : ∀ (l : List Op) (st : St) (lg : Log),
    (runLog st lg (l ++ [op])).2 = logStep (runLog st lg l).1 (runLog st lg l).2 op := by
  intro l
  induction l with
  | nil => intro st lg; rfl
  | cons o os ih => intro st lg; exact ih _ _

theorem legal2_prefix (ops : List Op) (op : Op) : ∀ (st : St), Legal2 st (ops ++ [op]) →
    Legal2 st ops ∧ LegalOp2 (run st ops).1.srv op := by
  induction ops with
  | nil => intro st h; exact ⟨trivial, h.1⟩
  | cons o os ih =>
    intro st h
    obtain ⟨h1, h2⟩ := ih _ h.2
    exact ⟨⟨h.1, h1⟩, h2⟩

theorem legalOp2_frame (s : Server) (ticked : Bool) (ms : Nat) (parts : Nat → List (List Nat)) :
    LegalOp2 s (.frame ticked ms parts) := by
  unfold LegalOp2 LegalOp'
  trivial

def replay (l : List Update) : Client := l.foldl applyUpdate {}

theorem wf_fresh : WF ({} : Client) := by
  refine ⟨?_, ?_, ?_⟩
  · intro se ce h; cases h
  · intro se se' ce h; cases h
  · intro ce h; cases h

theorem held_fresh (se : Nat) : ¬ held ({} : Client) se := by
  rintro ⟨ce, ent, h, _⟩; cases h

def logOkFrom : Client → List Update → Prop
  | _, [] => True
  | c, u :: us => MsgOk c u ∧ logOkFrom (applyUpdate c u) us

theorem logOkFrom_append (us : List Update) (u : Update) : ∀ (c : Client),
    logOkFrom c (us ++ [u]) ↔ logOkFrom c us ∧ MsgOk (us.foldl applyUpdate c) u := by
  induction us with
  | nil => intro c; simp [logOkFrom]
  | cons v vs ih =>
    intro c
    simp only [List.cons_append, logOkFrom, List.foldl_cons, ih]
    constructor
    · rintro ⟨a, b, d⟩; exact ⟨⟨a, b⟩, d⟩
    · rintro ⟨⟨a, b⟩, d⟩; exact ⟨a, b, d⟩

/-- Per client: no pre-spawn mapping pending; nothing logged while unauthorized; the client replayed over
the log is well-formed and holds exactly the entities the server tracks; every logged message met
`MsgOk` when it was applied. -/
def CliSess (log : Log) (x : Nat × Cli) : Prop :=
  x.2.mappings = [] ∧ (x.2.authorized = false → log x.1 = []) ∧
  WF (replay (log x.1)) ∧ (∀ se, held (replay (log x.1)) se ↔ se ∈ keys x.2) ∧ logOkFrom {} (log x.1)

theorem CliSess.mappings {log : Log} {x : Nat × Cli} (h : CliSess log x) : x.2.mappings = [] := h.1
theorem CliSess.unauth {log : Log} {x : Nat × Cli} (h : CliSess log x) : x.2.authorized = false → log x.1 = [] := h.2.1
theorem CliSess.wf {log : Log} {x : Nat × Cli} (h : CliSess log x) : WF (replay (log x.1)) := h.2.2.1
theorem CliSess.holds {log : Log} {x : Nat × Cli} (h : CliSess log x) (se : Nat) :
    held (replay (log x.1)) se ↔ se ∈ keys x.2 := h.2.2.2.1 se
theorem CliSess.ok {log : Log} {x : Nat × Cli} (h : CliSess log x) : logOkFrom {} (log x.1) := h.2.2.2.2

/-- The invariant of a session: both server invariants and `CliSess` for every client. -/
structure SessInv (st : St) (log : Log) : Prop where
  sync : SyncInv st.srv
  rem : RemInv st.srv
  cli : ∀ x ∈ st.srv.clients, CliSess log x

theorem aget_outs (p : Server) (hn : (p.clients.map (·.1)).Nodup) (c : Nat) :
    aget p.runAll.2 c =
      match aget p.clients c with
      | some cl => if cl.authorized then some (runClient p (p.now + 1) cl).2 else none
      | none => none := by
  rw [runAll_outs, aget_filterMap _ (fun x y hxy => by split at hxy <;> cases hxy; rfl) _ c hn]
  cases aget p.clients c with
  | none => rfl
  | some cl => simp only [Option.bind_some]; split <;> rfl

theorem replay_append (l : List Update) (u : Update) : replay (l ++ [u]) = applyUpdate (replay l) u := by
  unfold replay
  rw [List.foldl_append]
  rfl

/-- `CliSess`, with the client's log named -/
theorem cliSess_of {log : Log} {x : Nat × Cli} (l : List Update) (hl : log x.1 = l) (h1 : x.2.mappings = [])
    (h2 : x.2.authorized = false → l = []) (h3 : WF (replay l)) (h4 : ∀ se, held (replay l) se ↔ se ∈ keys x.2)
    (h5 : logOkFrom {} l) : CliSess log x := by
  subst hl
  exact ⟨h1, h2, h3, h4, h5⟩

theorem cliSess_empty (log : Log) (c : Nat) (cl : Cli) (hm : cl.mappings = []) (hk : cl.mutTick = [])
    (hl : log c = []) : CliSess log (c, cl) :=
  cliSess_of [] hl hm (fun _ => rfl) wf_fresh
    (fun se => ⟨fun h => absurd h (held_fresh se), fun h => by rw [keys, hk] at h; cases h⟩) trivial

theorem CliSess.transport {log log' : Log} {x x' : Nat × Cli} (h : CliSess log x) (hl : log' x'.1 = log x.1)
    (hm : x'.2.mappings = x.2.mappings) (ha : x'.2.authorized = x.2.authorized)
    (hk : ∀ j, j ∈ keys x'.2 ↔ j ∈ keys x.2) : CliSess log' x' :=
  cliSess_of _ hl (hm.trans h.mappings) (fun hf => h.unauth (ha ▸ hf)) h.wf (fun se => (h.holds se).trans (hk se).symm) h.ok


theorem CliSess.preG {log : Log} {x : Nat × Cli} (h : CliSess log x) (s : Server) (ms : Nat) :
    CliSess log (x.1, preG s ms x.2) :=
  h.transport rfl (preG_mappings s ms x.2) (preG_authorized s ms x.2) (preG_keys s ms x.2)

theorem CliSess.transport_log {log log' : Log} {x : Nat × Cli} (h : CliSess log x) (hl : log' x.1 = log x.1) : CliSess log' x :=
  h.transport hl rfl rfl fun _ => Iff.rfl

theorem logStep_ran (st : St) (log : Log) (ticked : Bool) (ms : Nat) (parts : Nat → List (List Nat))
    (hr : st.srv.running = true) (hc : (preRun st.srv ticked ms).tickChanged = true)
    (hn : ((preRun st.srv ticked ms).clients.map (·.1)).Nodup) (y : Nat × Cli) (hy : y ∈ (preRun st.srv ticked ms).clients) :
    logStep st log (.frame ticked ms parts) y.1 =
      if y.2.authorized then
        (match (runClient (preRun st.srv ticked ms) ((preRun st.srv ticked ms).now + 1) y.2).2.update with
         | some u => log y.1 ++ [u]
         | none => log y.1)
      else log y.1 := by
  unfold logStep
  simp only
  rw [frame_outs_eq st ticked ms parts hr hc, aget_outs _ hn y.1, aget_of_mem_nodup _ y.1 y.2 hn hy]
  simp only
  cases y.2.authorized <;> rfl

theorem SessInv.preRun {st : St} {log : Log} (inv : SessInv st log) (ticked : Bool) (ms : Nat) :
    ∀ y ∈ (preRun st.srv ticked ms).clients, CliSess log y := by
  intro y hy
  rw [preRun_eq] at hy
  obtain ⟨z, hz, rfl⟩ := List.mem_map.mp hy
  exact (inv.cli z hz).preG st.srv ms

/-- `frame_both_sides` and `frame_msg_ok` for the replayed client -/
theorem CliSess.ran {log log' : Log} {y : Nat × Cli} (h : CliSess log y) (p : Server) (parts : Nat → List (List Nat))
    (invp : SyncInv p) (hrm : RemovalsMarked p) (hy : y ∈ p.clients) (ha : y.2.authorized = true)
    (hlog : log' y.1 = match (runClient p (p.now + 1) y.2).2.update with
      | some u => log y.1 ++ [u]
      | none => log y.1) :
    CliSess log' (y.1, afterRun p (p.now + 1) p.elapsed (parts y.1) y.2) := by
  have hb := frame_both_sides p parts invp hrm y hy ha h.mappings (replay (log y.1)) h.wf h.holds
  unfold ranClient at hb
  rw [if_pos ha] at hb
  have hau : (afterRun p (p.now + 1) p.elapsed (parts y.1) y.2).authorized = true := (afterRun_authorized ..).trans ha
  cases hu : (runClient p (p.now + 1) y.2).2.update with
  | none =>
    rw [hu] at hlog hb
    exact cliSess_of _ hlog (afterRun_mappings ..) (fun hf => nomatch hau.symm.trans hf) h.wf hb h.ok
  | some u =>
    rw [hu] at hlog hb
    refine cliSess_of _ hlog (afterRun_mappings ..) (fun hf => nomatch hau.symm.trans hf) ?_ ?_ ?_
    · rw [replay_append]; exact hb.1
    · rw [replay_append]; exact hb.2
    · exact (logOkFrom_append _ u {}).mpr ⟨h.ok, frame_msg_ok p invp hrm y hy h.mappings _ h.holds u hu⟩

theorem sess_frame_ran (st : St) (log : Log) (ticked : Bool) (ms : Nat) (parts : Nat → List (List Nat))
    (inv : SessInv st log) (hr : st.srv.running = true) (hc : (preRun st.srv ticked ms).tickChanged = true) :
    ∀ x ∈ (frame st ticked ms parts).1.srv.clients, CliSess (logStep st log (.frame ticked ms parts)) x := by
  have invp := preRun_sync st.srv ticked ms inv.sync
  intro x hx
  rw [frame_srv, fullFrame_of_ran st.srv ticked ms parts hr hc] at hx
  obtain ⟨y, hy, rfl⟩ := List.mem_map.mp hx
  have hlog := logStep_ran st log ticked ms parts hr hc invp.clientsNodup y hy
  unfold ranClient
  cases ha : y.2.authorized with
  | false =>
    rw [ha, if_neg Bool.false_ne_true] at hlog
    rw [if_neg Bool.false_ne_true]
    exact (inv.preRun ticked ms y hy).transport_log hlog
  | true =>
    rw [ha, if_pos rfl] at hlog
    rw [if_pos rfl]
    exact (inv.preRun ticked ms y hy).ran _ parts invp (preRun_rem st.srv ticked ms hr inv.rem).1 hy ha hlog

theorem logStep_frame_nil (st : St) (log : Log) (ticked : Bool) (ms : Nat) (parts : Nat → List (List Nat))
    (h : (frame st ticked ms parts).2.1 = []) (c : Nat) : logStep st log (.frame ticked ms parts) c = log c := by
  unfold logStep
  simp only [h]
  rfl

theorem logStep_stopped (st : St) (log : Log) (ticked : Bool) (ms : Nat) (parts : Nat → List (List Nat))
    (hr : st.srv.running = false) (c : Nat) : logStep st log (.frame ticked ms parts) c = log c :=
  logStep_frame_nil st log ticked ms parts (frame_outs_stopped st ticked ms parts hr) c

theorem logStep_idle (st : St) (log : Log) (ticked : Bool) (ms : Nat) (parts : Nat → List (List Nat))
    (hr : st.srv.running = true) (hc : (preRun st.srv ticked ms).tickChanged = false) (c : Nat) :
    logStep st log (.frame ticked ms parts) c = log c :=
  logStep_frame_nil st log ticked ms parts (frame_outs_idle st ticked ms parts hr hc) c

theorem sess_frame (st : St) (log : Log) (ticked : Bool) (ms : Nat) (parts : Nat → List (List Nat)) (inv : SessInv st log) :
    ∀ x ∈ (frame st ticked ms parts).1.srv.clients, CliSess (logStep st log (.frame ticked ms parts)) x := by
  cases hr : st.srv.running with
  | false =>
    intro x hx
    rw [frame_srv, fullFrame_of_stopped st.srv ticked ms parts hr] at hx
    replace hx : x ∈ if st.srv.lastRunning then [] else st.srv.clients := hx
    split at hx
    · cases hx
    · exact (inv.cli x hx).transport_log (logStep_stopped st log ticked ms parts hr x.1)
  | true =>
    cases hc : (preRun st.srv ticked ms).tickChanged with
    | true => exact sess_frame_ran st log ticked ms parts inv hr hc
    | false =>
      intro x hx
      rw [frame_srv, fullFrame_of_idle st.srv ticked ms parts hr hc] at hx
      exact (inv.preRun ticked ms x hx).transport_log (logStep_idle st log ticked ms parts hr hc x.1)

theorem sess_step (st : St) (log : Log) (op : Op) (inv : SessInv st log) (hl : LegalOp2 st.srv op) :
    SessInv (step st op).1 (logStep st log op) := by
  have hl' := legalOp'_of_2 st.srv op hl
  have hl1 := legalOp_of_legalOp' st.srv op hl'
  refine ⟨sync_step st op inv.sync hl1, rem_step st op inv.rem inv.sync.worldNodup hl', ?_⟩
  cases op with
  | spawn e m cs => exact inv.cli
  | vis c e b => exact forall_updClient st.srv c _ _ inv.cli fun _ _ h => h
  | map c e p => exact hl.elim
  | connect c a =>
    intro x hx
    rcases (mem_aset _ _ _ _).mp hx with rfl | ⟨hm, hne⟩
    · exact cliSess_empty _ c _ rfl rfl (if_pos rfl)
    · exact (inv.cli x hm).transport_log (if_neg hne)
  | authorize c =>
    refine forall_updClient st.srv c _ _ inv.cli fun cl _ h => ?_
    split
    · exact h
    · rename_i ha
      exact cliSess_empty log c _ rfl rfl (h.unauth (Bool.eq_false_iff.mpr ha))
  | disconnect c => exact fun x hx => inv.cli x ((mem_adel _ _ _).mp hx).1
  | stop => exact fun x hx => nomatch hx
  | start => exact inv.cli
  | ack c idxs => exact forall_updClient st.srv c _ _ inv.cli fun _ _ h => h
  | emit em => exact inv.cli
  | frame t ms parts => exact sess_frame st log t ms parts inv
  -- `despawn`, `insert`, `mutate`, `remove`, `mark`
  | _ =>
    intro x hx
    rw [(step_worldOp st _ rfl).clients] at hx
    exact inv.cli x hx

theorem sess_run (ops : List Op) : ∀ (st : St) (log : Log), SessInv st log → Legal2 st ops →
    SessInv (runLog st log ops).1 (runLog st log ops).2 := by
  induction ops with
  | nil => intro st log inv _; exact inv
  | cons op ops ih =>
    intro st log inv hl
    exact ih _ _ (sess_step st log op inv hl.1) hl.2

/-! ### a frame with a run, from the invariant alone

The history theorems with and without jumps of the tick differ only in how the invariant of the
state before the frame is obtained. -/

theorem view_of_sess (st : St) (log : Log) (inv : SessInv st log) (ticked : Bool) (ms : Nat)
    (parts : Nat → List (List Nat))
    (hr : st.srv.running = true) (hc : (preRun st.srv ticked ms).tickChanged = true) :
    ∀ x ∈ (step st (.frame ticked ms parts)).1.srv.clients, x.2.authorized = true →
      WF (replay (logStep st log (.frame ticked ms parts) x.1)) ∧
      ∀ se, held (replay (logStep st log (.frame ticked ms parts) x.1)) se ↔
        marked (step st (.frame ticked ms parts)).1.srv.world se ∧
        Vis.isVisible (step st (.frame ticked ms parts)).1.srv.white (cell x.2 se) = true := by
  intro x hx ha
  have h := (sess_step st log _ inv (legalOp2_frame ..)).cli x hx
  exact ⟨h.wf, fun se => (h.holds se).trans (fullFrame_view st.srv ticked ms parts inv.sync hr hc x hx ha se)⟩

/-- what the session invariant of a running server gives the next run, for client `z` and the receiver
that replays the client's log (`frame_new_entity_values` takes `rem`, `mem` and `held` as hypotheses
although its proof needs none of them; `rem` and `held` have no other use) -/
structure NextRun (st : St) (log : Log) (ticked : Bool) (ms : Nat) (z : Nat × Cli) : Prop where
  sync : SyncInv (preRun st.srv ticked ms)
  rem : RemovalsMarked (preRun st.srv ticked ms)
  mem : (z.1, preG st.srv ms z.2) ∈ (preRun st.srv ticked ms).clients
  mappings : (preG st.srv ms z.2).mappings = []
  tracked : ∀ se, se ∈ keys (preG st.srv ms z.2) ↔ se ∈ keys z.2
  wf : WF (replay (log z.1))
  held : ∀ se, held (replay (log z.1)) se ↔ se ∈ keys (preG st.srv ms z.2)
  world : (preRun st.srv ticked ms).world = st.srv.world
  lastRun : (preRun st.srv ticked ms).lastRun = st.srv.lastRun
  rates : (preRun st.srv ticked ms).rates = st.srv.rates

theorem sess_next_run (st : St) (log : Log) (inv : SessInv st log) (ticked : Bool) (ms : Nat)
    (hr : st.srv.running = true) (z : Nat × Cli) (hz : z ∈ st.srv.clients) : NextRun st log ticked ms z := by
  have h := inv.cli z hz
  have hk := preG_keys st.srv ms z.2
  refine ⟨preRun_sync st.srv ticked ms inv.sync, (preRun_rem st.srv ticked ms hr inv.rem).1, ?_,
    (preG_mappings _ _ _).trans h.mappings, hk, h.wf, fun se => (h.holds se).trans (hk se).symm,
    by rw [preRun_eq], by rw [preRun_eq], by rw [preRun_eq]⟩
  rw [preRun_eq]
  exact List.mem_map_of_mem (f := fun x => (x.1, preG st.srv ms x.2)) hz

theorem sess_empty (s0 : Server) (hw : s0.world = []) (hc0 : s0.clients = []) (hb : s0.removalBuf = []) :
    SessInv ({ srv := s0 } : St) (fun _ => []) :=
  ⟨sync_empty s0 hw hc0, remInv_empty s0 hb, fun x hx => by rw [show ({ srv := s0 } : St).srv.clients = [] from hc0] at hx; cases hx⟩

theorem sess_history (s0 : Server) (hw : s0.world = []) (hc0 : s0.clients = []) (hb : s0.removalBuf = [])
    (ops : List Op) (hl : Legal2 { srv := s0 } ops) :
    SessInv (run { srv := s0 } ops).1 (runLog { srv := s0 } (fun _ => []) ops).2 :=
  runLog_fst ops _ (fun _ => []) ▸ sess_run ops _ _ (sess_empty s0 hw hc0 hb) hl

theorem session_entities (s0 : Server) (hw : s0.world = []) (hc0 : s0.clients = []) (hb : s0.removalBuf = [])
    (ops : List Op) (hl : Legal2 { srv := s0 } ops) :
    ∀ x ∈ (run { srv := s0 } ops).1.srv.clients,
      WF (replay ((runLog { srv := s0 } (fun _ => []) ops).2 x.1)) ∧
      ∀ se, held (replay ((runLog { srv := s0 } (fun _ => []) ops).2 x.1)) se ↔ se ∈ keys x.2 :=
  fun x hx => ⟨((sess_history s0 hw hc0 hb ops hl).cli x hx).wf, ((sess_history s0 hw hc0 hb ops hl).cli x hx).holds⟩

theorem session_view (s0 : Server) (hw : s0.world = []) (hc0 : s0.clients = []) (hb : s0.removalBuf = [])
    (ops : List Op) (ticked : Bool) (ms : Nat) (parts : Nat → List (List Nat))
    (hl : Legal2 { srv := s0 } (ops ++ [.frame ticked ms parts]))
    (hr : (run { srv := s0 } ops).1.srv.running = true)
    (hc : (preRun (run { srv := s0 } ops).1.srv ticked ms).tickChanged = true) :
    ∀ x ∈ (run { srv := s0 } (ops ++ [.frame ticked ms parts])).1.srv.clients, x.2.authorized = true →
      WF (replay ((runLog { srv := s0 } (fun _ => []) (ops ++ [.frame ticked ms parts])).2 x.1)) ∧
      ∀ se, held (replay ((runLog { srv := s0 } (fun _ => []) (ops ++ [.frame ticked ms parts])).2 x.1)) se ↔
        marked (run { srv := s0 } (ops ++ [.frame ticked ms parts])).1.srv.world se ∧
        Vis.isVisible (run { srv := s0 } (ops ++ [.frame ticked ms parts])).1.srv.white (cell x.2 se) = true := by
  rw [run_append, runLog_snd_append, runLog_fst]
  exact view_of_sess _ _ (sess_history s0 hw hc0 hb ops (legal2_prefix ops _ _ hl).1) ticked ms parts hr hc

/-- mutate messages never change which entities are held -/
theorem _root_.Replicon.Cli.arrivals_sim : ∀ (l : List Arrival) (c1 c2 : Client), WF c1 → WF c2 → (∀ se, held c1 se ↔ held c2 se) →
    Joint.logOkFrom c2 (updatesOf l) →
    WF (runArrivals c1 l) ∧ ∀ se, held (runArrivals c1 l) se ↔ held ((updatesOf l).foldl applyUpdate c2) se := by
  intro l
  induction l with
  | nil => intro c1 c2 w1 _ hh _; exact ⟨w1, hh⟩
  | cons a rest ih =>
    intro c1 c2 w1 w2 hh hok
    cases a with
    | mutate m =>
      have k := applyMutate_keeps c1 m w1
      exact ih (applyMutate c1 m) c2 k.wf w2 (fun se => (k.holds se).trans (hh se)) hok
    | upd u =>
      obtain ⟨ok2, okrest⟩ := hok
      have ok1 := msgOk_transfer c1 c2 u hh ok2
      obtain ⟨w1', h1'⟩ := applyUpdate_held c1 u w1 ok1.mappings ok1.removals
      obtain ⟨w2', h2'⟩ := applyUpdate_held c2 u w2 ok2.mappings ok2.removals
      apply ih (applyUpdate c1 u) (applyUpdate c2 u) w1' w2' _ okrest
      intro se
      rw [h1' se, h2' se, hh se]

theorem anySchedule_of_sess (st : St) (log : Log) (inv : SessInv st log) (ticked : Bool) (ms : Nat)
    (parts : Nat → List (List Nat))
    (hr : st.srv.running = true) (hc : (preRun st.srv ticked ms).tickChanged = true) :
    ∀ x ∈ (step st (.frame ticked ms parts)).1.srv.clients, x.2.authorized = true →
      ∀ arrivals : List Arrival, updatesOf arrivals = logStep st log (.frame ticked ms parts) x.1 →
        WF (runArrivals {} arrivals) ∧
        ∀ se, held (runArrivals {} arrivals) se ↔
          marked (step st (.frame ticked ms parts)).1.srv.world se ∧
          Vis.isVisible (step st (.frame ticked ms parts)).1.srv.white (cell x.2 se) = true := by
  intro x hx ha arrivals harr
  obtain ⟨_, hview⟩ := view_of_sess st log inv ticked ms parts hr hc x hx ha
  have hok := ((sess_step st log _ inv (legalOp2_frame ..)).cli x hx).ok
  rw [← harr] at hok hview
  obtain ⟨w, hh⟩ := arrivals_sim arrivals {} {} wf_fresh wf_fresh (fun _ => Iff.rfl) hok
  exact ⟨w, fun se => (hh se).trans (hview se)⟩

theorem session_view_any_schedule (s0 : Server) (hw : s0.world = []) (hc0 : s0.clients = []) (hb : s0.removalBuf = [])
    (ops : List Op) (ticked : Bool) (ms : Nat) (parts : Nat → List (List Nat))
    (hl : Legal2 { srv := s0 } (ops ++ [.frame ticked ms parts]))
    (hr : (run { srv := s0 } ops).1.srv.running = true)
    (hc : (preRun (run { srv := s0 } ops).1.srv ticked ms).tickChanged = true) :
    ∀ x ∈ (run { srv := s0 } (ops ++ [.frame ticked ms parts])).1.srv.clients, x.2.authorized = true →
      ∀ arrivals : List Arrival,
        updatesOf arrivals = (runLog { srv := s0 } (fun _ => []) (ops ++ [.frame ticked ms parts])).2 x.1 →
        WF (runArrivals {} arrivals) ∧
        ∀ se, held (runArrivals {} arrivals) se ↔
          marked (run { srv := s0 } (ops ++ [.frame ticked ms parts])).1.srv.world se ∧
          Vis.isVisible (run { srv := s0 } (ops ++ [.frame ticked ms parts])).1.srv.white (cell x.2 se) = true := by
  rw [run_append, runLog_snd_append, runLog_fst]
  exact anySchedule_of_sess _ _ (sess_history s0 hw hc0 hb ops (legal2_prefix ops _ _ hl).1) ticked ms parts hr hc

end Replicon.Joint
