import Replicon.Proofs.Joint
/-
The server's bookkeeping of *which entities a client holds* (the keys of `ClientTicks`, here
`Cli.mutTick`) over arbitrary histories: after every replication run it is exactly the set of
replicated entities visible to that client, and the DESPAWNS / CHANGES sections of the run's update
message carry exactly the difference to the set before the run.  First one client and one run
(`CliSync`, `run_sync`, `Diff`), then the whole server (`SyncInv`) through every operation and frame, a
frame with a run from the invariant alone, and all histories from a server without entities and clients.
-/
namespace Replicon.Srv

/-- Per-client invariant between frames: every visibility cell represents a ghost (most recent
setting, held) of `Proofs/Visibility.lean`; an entity the server has a tick for is held
according to that ghost, and is still replicated or waits in the despawn buffer. -/
def CliSync (w : Bool) (world : List (Nat × SEnt)) (dbuf : List Nat) (cl : Cli) : Prop :=
  VisNodup cl ∧
  ∀ e, ∃ g : Vis.Ghost, Vis.Inv w (cell cl e) g = true ∧
    (e ∈ keys cl → g.held = true ∧ (marked world e ∨ e ∈ dbuf))

theorem CliSync.nodup {w : Bool} {W : List (Nat × SEnt)} {D : List Nat} {cl : Cli} (h : CliSync w W D cl) :
    VisNodup cl := h.1

theorem CliSync.ghost {w : Bool} {W : List (Nat × SEnt)} {D : List Nat} {cl : Cli} (h : CliSync w W D cl) (e : Nat) :
    ∃ g : Vis.Ghost, Vis.Inv w (cell cl e) g = true ∧ (e ∈ keys cl → g.held = true ∧ (marked W e ∨ e ∈ D)) := h.2 e

theorem CliSync.heldGhost {w : Bool} {W : List (Nat × SEnt)} {D : List Nat} {cl : Cli} (h : CliSync w W D cl) {e : Nat}
    (hk : e ∈ keys cl) : ∃ g : Vis.Ghost, Vis.Inv w (cell cl e) g = true ∧ g.held = true :=
  (h.ghost e).imp fun _ hg => ⟨hg.1, (hg.2 hk).1⟩

theorem CliSync.markedOrBuffered {w : Bool} {W : List (Nat × SEnt)} {D : List Nat} {cl : Cli} (h : CliSync w W D cl)
    {e : Nat} (hk : e ∈ keys cl) : marked W e ∨ e ∈ D :=
  (h.ghost e).elim fun _ hg => (hg.2 hk).2

theorem visState_ne_hidden_iff (s : Server) (cl : Cli) (e : Nat) :
    visState s cl e ≠ .hidden ↔ Vis.isVisible s.white (cell cl e) = true := by
  unfold visState Vis.isVisible
  cases (if s.white then Vis.stateW (cell cl e) else Vis.stateB (cell cl e)) <;> simp

/-- the operation of `Model/Visibility.lean` a run is for the entity's cell -/
def runOp (dbuf : List Nat) (e : Nat) : Vis.Op := if e ∈ dbuf then .despawnTick else .tick

theorem step_cell (w : Bool) (c : Vis.Cell) (dbuf : List Nat) (e : Nat) :
    (Vis.step w c (runOp dbuf e)).1 =
      Vis.update w (Vis.drainLost w (if e ∈ dbuf then Vis.removeDespawned w c else c)) := by
  unfold runOp
  split <;> rfl

theorem run_ghost (s : Server) (cl : Cli) (e : Nat) (g : Vis.Ghost) (h : Vis.Inv s.white (cell cl e) g = true) :
    Vis.isVisible s.white (cellMid s cl e) = (Vis.Ghost.step s.white g (runOp s.despawnBuf e)).desired ∧
    (Vis.Ghost.step s.white g (runOp s.despawnBuf e)).held = (Vis.Ghost.step s.white g (runOp s.despawnBuf e)).desired := by
  by_cases hd : e ∈ s.despawnBuf
  · rw [cellMid_of_mem s cl hd, runOp, if_pos hd]
    exact ⟨Vis.isVisible_removeDespawned s.white _, rfl⟩
  · rw [cellMid_of_not_mem s cl hd, runOp, if_neg hd]
    exact ⟨Vis.isVisible_of_inv s.white _ g h, rfl⟩

theorem afterRun_cell (s : Server) (thisRun time : Nat) (parts : List (List Nat)) (cl : Cli) (hn : VisNodup cl) (e : Nat) :
    cell (afterRun s thisRun time parts cl) e = (Vis.step s.white (cell cl e) (runOp s.despawnBuf e)).1 := by
  unfold cell
  rw [afterRun_vis]
  exact (visUpdate_cell s.white _ (runCl1_nodup s cl hn) e).trans (by rw [cell_runCl1 s cl hn e, step_cell]; rfl)

theorem afterRun_nodup (s : Server) (thisRun time : Nat) (parts : List (List Nat)) (cl : Cli) (hn : VisNodup cl) :
    VisNodup (afterRun s thisRun time parts cl) := by
  unfold VisNodup
  rw [afterRun_vis]
  exact visUpdate_nodup s.white _ (runCl1_nodup s cl hn)

/-- what the invariant says of an entity that keeps its tick through `collect_despawns` -/
structure Kept (s : Server) (cl : Cli) (e : Nat) : Prop where
  tracked : e ∈ keys cl
  notBuffered : e ∉ s.despawnBuf
  replicated : marked s.world e
  visible : visState s (runCl1 s cl) e = .visible
  notDespawned : e ∉ runDespawns s cl

theorem kept_of_sync (s : Server) (cl : Cli) (inv : CliSync s.white s.world s.despawnBuf cl) (e : Nat)
    (hk : e ∈ keys (runCl1 s cl)) : Kept s cl e := by
  obtain ⟨hkc, hnd, hnl⟩ := (mem_keys_runCl1 s cl inv.nodup e).mp hk
  obtain ⟨g, hinv, hh⟩ := inv.heldGhost hkc
  have hmid := cellMid_of_not_mem s cl hnd
  refine ⟨hkc, hnd, (inv.markedOrBuffered hkc).resolve_right hnd, ?_, fun hdes => ?_⟩
  · -- held and not reported lost: the ghost wants it; wanted and held: plainly visible after `drain_lost`
    unfold visState
    rw [cell_runCl1 s cl inv.nodup e, hmid]
    exact inv_desired_held_visible s.white _ g hinv (inv_held_notlost_desired s.white _ g hinv hh (hmid ▸ hnl)) hh
  · rcases runDespawns_out s cl inv.nodup e hdes with h | h
    · exact hnd h
    · rw [hnl] at h; cases h

theorem unknown_whole (s : Server) (thisRun : Nat) (cl : Cli) (e : Nat) (hk : e ∉ keys (runCl1 s cl))
    (hm : marked s.world e) (hv : visState s (runCl1 s cl) e ≠ .hidden) :
    e ∈ runBumped s thisRun cl ∧ e ∈ runChanged s thisRun cl := by
  obtain ⟨ent, h1, h2⟩ := hm
  obtain ⟨m, hmk⟩ := Option.isSome_iff_exists.mp h2
  have := collect_unknown_whole s thisRun (runCl1 s cl) e ent m hv (aget_none_of_not_mem _ _ hk)
  exact ⟨(mem_runBumped s thisRun cl e).mpr ⟨ent, m, h1, hmk, by rw [this]⟩,
    (mem_runChanged s thisRun cl e).mpr ⟨ent, m, _, h1, hmk, by rw [this]⟩⟩

theorem afterRun_mem_keys (s : Server) (thisRun time : Nat) (parts : List (List Nat)) (cl : Cli)
    (inv : CliSync s.white s.world s.despawnBuf cl) (e : Nat) :
    e ∈ keys (afterRun s thisRun time parts cl) ↔
      marked s.world e ∧ Vis.isVisible s.white (cellMid s cl e) = true := by
  have hvs : visState s (runCl1 s cl) e ≠ .hidden ↔ Vis.isVisible s.white (cellMid s cl e) = true := by
    rw [visState_ne_hidden_iff, cell_runCl1 s cl inv.nodup e, Vis.isVisible_drainLost]
  rw [afterRun_keys]
  constructor
  · rintro (hkept | hb)
    · have k := kept_of_sync s cl inv e hkept
      exact ⟨k.replicated, hvs.mp fun h => nomatch k.visible.symm.trans h⟩
    · obtain ⟨ent, m, h1, h2, h3⟩ := (mem_runBumped s thisRun cl e).mp hb
      exact ⟨⟨ent, h1, by rw [h2]; rfl⟩, hvs.mp (collect_bump_visible s thisRun _ e ent m h3)⟩
  · rintro ⟨hm, hv⟩
    by_cases hk : e ∈ keys (runCl1 s cl)
    · exact Or.inl hk
    · exact Or.inr (unknown_whole s thisRun cl e hk hm (hvs.mpr hv)).1

theorem run_sync (s : Server) (thisRun time : Nat) (parts : List (List Nat)) (cl : Cli)
    (inv : CliSync s.white s.world s.despawnBuf cl) :
    CliSync s.white s.world [] (afterRun s thisRun time parts cl) ∧
    ∀ e, e ∈ keys (afterRun s thisRun time parts cl) ↔
      marked s.world e ∧ Vis.isVisible s.white (cell (afterRun s thisRun time parts cl) e) = true := by
  have hkeys := afterRun_mem_keys s thisRun time parts cl inv
  have hn := inv.nodup
  -- the ghost after the run: it holds exactly what it wants, and it wants what the client sees after `collect_despawns`
  have key : ∀ e, ∃ g' : Vis.Ghost, Vis.Inv s.white (cell (afterRun s thisRun time parts cl) e) g' = true ∧
      Vis.isVisible s.white (cellMid s cl e) = g'.desired ∧ g'.held = g'.desired := by
    intro e
    obtain ⟨g, hinv, _⟩ := inv.ghost e
    refine ⟨_, ?_, run_ghost s cl e g hinv⟩
    rw [afterRun_cell s thisRun time parts cl hn e]
    exact (Vis.step_preserves s.white (cell cl e) g (runOp s.despawnBuf e) hinv).1
  refine ⟨⟨afterRun_nodup s thisRun time parts cl hn, fun e => ?_⟩, fun e => ?_⟩
  · obtain ⟨g', h1, h2, h3⟩ := key e
    refine ⟨g', h1, fun hke => ?_⟩
    obtain ⟨hm, hv⟩ := (hkeys e).mp hke
    exact ⟨by rw [h3, ← h2]; exact hv, Or.inl hm⟩
  · obtain ⟨g', h1, h2, _⟩ := key e
    rw [hkeys e, h2, Vis.isVisible_of_inv s.white _ g' h1]

theorem dropped_despawned (s : Server) (cl : Cli) (inv : CliSync s.white s.world s.despawnBuf cl) (e : Nat)
    (hk : e ∈ keys cl) (hn : e ∉ keys (runCl1 s cl)) : e ∈ runDespawns s cl := by
  obtain ⟨g, hinv, hh⟩ := inv.heldGhost hk
  apply runDespawns_sends s cl inv.nodup e
  by_cases hd : e ∈ s.despawnBuf
  · refine (inv_held_despawn_sent s.white _ g hinv hh).imp (fun h => ⟨hd, h⟩) fun h => ?_
    rw [cellMid_of_mem s cl hd]; exact h
  · right
    cases hl : Vis.lost s.white (cellMid s cl e) with
    | true => rfl
    | false => exact absurd ((mem_keys_runCl1 s cl inv.nodup e).mpr ⟨hk, hd, hl⟩) hn

/-- How a run changes a set. `A`, `B`: the set before and after; `D`, `C`: what the message despawns, what it changes. -/
structure Diff (A B D C : Nat → Prop) : Prop where
  lost : ∀ e, A e → ¬ B e → D e
  gained : ∀ e, B e → ¬ A e → C e
  /-- a despawned entity that is tracked afterwards was sent again whole -/
  resent : ∀ e, D e → B e → C e
  changed : ∀ e, C e → B e

theorem diff_apply {A B D C : Nat → Prop} (e : Nat) (g1 : A e → ¬ B e → D e) (g2 : B e → ¬ A e → C e)
    (g3 : D e → B e → C e) (g4 : C e → B e) : (A e ∧ ¬ D e) ∨ C e ↔ B e := by
  constructor
  · rintro (⟨h1, h2⟩ | h)
    · exact Classical.byContradiction fun hb => h2 (g1 h1 hb)
    · exact g4 h
  · intro hb
    by_cases hc : C e
    · exact Or.inr hc
    · exact Or.inl ⟨Classical.byContradiction fun ha => hc (g2 hb ha), fun hd => hc (g3 hd hb)⟩

/-- removing what is despawned and adding what is changed turns the set before into the set after -/
theorem Diff.apply {A B D C : Nat → Prop} (h : Diff A B D C) (e : Nat) : (A e ∧ ¬ D e) ∨ C e ↔ B e :=
  diff_apply e (h.lost e) (h.gained e) (h.resent e) (h.changed e)

theorem Diff.silent {A B D C : Nat → Prop} (h : Diff A B D C) (hD : ∀ e, ¬ D e) (hC : ∀ e, ¬ C e) (e : Nat) : B e ↔ A e :=
  ⟨fun hb => Classical.byContradiction fun ha => hC e (h.gained e hb ha),
   fun ha => Classical.byContradiction fun hb => hD e (h.lost e ha hb)⟩

theorem diff_of_run (s : Server) (thisRun time : Nat) (parts : List (List Nat)) (cl : Cli)
    (inv : CliSync s.white s.world s.despawnBuf cl) :
    Diff (· ∈ keys cl) (· ∈ keys (afterRun s thisRun time parts cl)) (· ∈ runDespawns s cl) (· ∈ runChanged s thisRun cl) := by
  have hnew : ∀ e, e ∈ keys (afterRun s thisRun time parts cl) → e ∉ keys (runCl1 s cl) → e ∈ runChanged s thisRun cl := by
    intro e hk hnk
    obtain ⟨ent, m, h1, h2, h3⟩ := (mem_runBumped s thisRun cl e).mp
      (((afterRun_keys s thisRun time parts cl e).mp hk).resolve_left hnk)
    exact (unknown_whole s thisRun cl e hnk ⟨ent, h1, by rw [h2]; rfl⟩ (collect_bump_visible s thisRun _ e ent m h3)).2
  refine ⟨fun e hk hnk => dropped_despawned s cl inv e hk fun h => hnk ((afterRun_keys s thisRun time parts cl e).mpr (Or.inl h)),
    fun e hk hnk => hnew e hk fun h => hnk (kept_of_sync s cl inv e h).tracked,
    fun e hd hk => hnew e hk fun h => (kept_of_sync s cl inv e h).notDespawned hd, fun e h => ?_⟩
  · obtain ⟨ent, m, r, h1, h2, h3⟩ := (mem_runChanged s thisRun cl e).mp h
    exact (afterRun_keys s thisRun time parts cl e).mpr (Or.inr ((mem_runBumped s thisRun cl e).mpr
      ⟨ent, m, h1, h2, toUpdate_bump s thisRun _ e ent m r h3⟩))

theorem run_diff (s : Server) (thisRun time : Nat) (parts : List (List Nat)) (cl : Cli)
    (inv : CliSync s.white s.world s.despawnBuf cl) :
    (∀ e, e ∈ keys cl → e ∉ keys (afterRun s thisRun time parts cl) → e ∈ runDespawns s cl) ∧
    (∀ e, e ∈ keys (afterRun s thisRun time parts cl) → e ∉ keys cl → e ∈ runChanged s thisRun cl) ∧
    (∀ e, e ∈ runDespawns s cl → e ∈ keys (afterRun s thisRun time parts cl) → e ∈ runChanged s thisRun cl) ∧
    (∀ e, e ∈ runChanged s thisRun cl → e ∈ keys (afterRun s thisRun time parts cl)) :=
  have d := diff_of_run s thisRun time parts cl inv
  ⟨d.lost, d.gained, d.resent, d.changed⟩

/-- `CliSync` for every client; a stopped server and unauthorized clients track nothing (behind
`C03_history_entities`). -/
structure SyncInv (s : Server) : Prop where
  worldNodup : (s.world.map (·.1)).Nodup
  clientsNodup : (s.clients.map (·.1)).Nodup
  stopped : s.running = false → ∀ x ∈ s.clients, x.2.mutTick = []
  unauth : ∀ x ∈ s.clients, x.2.authorized = false → x.2.mutTick = []
  sync : ∀ x ∈ s.clients, CliSync s.white s.world s.despawnBuf x.2

theorem CliSync.nokeys {w : Bool} {W : List (Nat × SEnt)} {D : List Nat} {cl : Cli} (h : CliSync w W D cl)
    (W' : List (Nat × SEnt)) (D' : List Nat) (hk : cl.mutTick = []) : CliSync w W' D' cl :=
  ⟨h.nodup, fun e => (h.ghost e).imp fun _ hg => ⟨hg.1, fun he => by rw [keys, hk] at he; cases he⟩⟩

/-- what `SyncInv` says about one client -/
def CliOk (s : Server) (cl : Cli) : Prop :=
  (s.running = false → cl.mutTick = []) ∧ (cl.authorized = false → cl.mutTick = []) ∧
  CliSync s.white s.world s.despawnBuf cl

theorem CliOk.stopped {s : Server} {cl : Cli} (h : CliOk s cl) : s.running = false → cl.mutTick = [] := h.1
theorem CliOk.unauth {s : Server} {cl : Cli} (h : CliOk s cl) : cl.authorized = false → cl.mutTick = [] := h.2.1
theorem CliOk.sync {s : Server} {cl : Cli} (h : CliOk s cl) : CliSync s.white s.world s.despawnBuf cl := h.2.2

theorem SyncInv.cli {s : Server} (inv : SyncInv s) : ∀ x ∈ s.clients, CliOk s x.2 :=
  fun x hx => ⟨fun hr => inv.stopped hr x hx, inv.unauth x hx, inv.sync x hx⟩

theorem SyncInv.of_cli {s : Server} (hw : (s.world.map (·.1)).Nodup) (hc : (s.clients.map (·.1)).Nodup)
    (h : ∀ x ∈ s.clients, CliOk s x.2) : SyncInv s :=
  ⟨hw, hc, fun hr x hx => (h x hx).stopped hr, fun x hx => (h x hx).unauth, fun x hx => (h x hx).sync⟩

theorem SyncInv.transport {s s' : Server} (inv : SyncInv s) (hw : s'.world = s.world) (hc : s'.clients = s.clients)
    (hp : s'.white = s.white) (hd : s'.despawnBuf = s.despawnBuf) (hr : s'.running = false → s.running = false) :
    SyncInv s' :=
  ⟨hw ▸ inv.worldNodup, hc ▸ inv.clientsNodup, fun h x hx => inv.stopped (hr h) x (hc ▸ hx),
   fun x hx => inv.unauth x (hc ▸ hx), fun x hx => by rw [hp, hw, hd]; exact inv.sync x (hc ▸ hx)⟩

theorem mutTick_nil_of_keys {cl cl' : Cli} (hk : ∀ j, j ∈ keys cl' → j ∈ keys cl) (h : cl.mutTick = []) : cl'.mutTick = [] := by
  cases hm : cl'.mutTick with
  | nil => rfl
  | cons x xs =>
    have := hk x.1 (by unfold keys; rw [hm]; exact List.mem_cons_self)
    unfold keys at this
    rw [h] at this
    cases this

theorem CliOk.transport {s s' : Server} {cl cl' : Cli} (h : CliOk s cl)
    (hw : s'.white = s.white) (hr : s'.running = false → s.running = false)
    (hv : cl'.vis = cl.vis) (hk : ∀ j, j ∈ keys cl' → j ∈ keys cl) (ha : cl'.authorized = false → cl.authorized = false)
    (hm : ∀ e, e ∈ keys cl' → marked s.world e ∨ e ∈ s.despawnBuf → marked s'.world e ∨ e ∈ s'.despawnBuf) :
    CliOk s' cl' := by
  refine ⟨fun hf => mutTick_nil_of_keys hk (h.stopped (hr hf)), fun hf => mutTick_nil_of_keys hk (h.unauth (ha hf)), ?_, fun e => ?_⟩
  · unfold VisNodup; rw [hv]; exact h.sync.nodup
  · obtain ⟨g, i1, i2⟩ := h.sync.ghost e
    refine ⟨g, ?_, fun hke => (i2 (hk e hke)).imp id (hm e hke)⟩
    unfold cell; rw [hv, hw]; exact i1

theorem CliOk.empty (s : Server) (cl : Cli) (hv : cl.vis = []) (hk : cl.mutTick = []) : CliOk s cl := by
  refine ⟨fun _ => hk, fun _ => hk, by unfold VisNodup; rw [hv]; exact List.nodup_nil, fun e => ?_⟩
  refine ⟨Vis.Ghost.init s.white, ?_, fun he => ?_⟩
  · unfold cell aget; rw [hv]; exact Vis.init_inv s.white
  · unfold keys at he; rw [hk] at he; cases he

theorem syncInv_worldStep (s s' : Server) (inv : SyncInv s) (h : WorldStep s s') : SyncInv s' := by
  refine SyncInv.of_cli h.nodup (h.clients ▸ inv.clientsNodup) fun x hx => ?_
  have hx' : x ∈ s.clients := h.clients ▸ hx
  refine (inv.cli x hx').transport h.white (fun hf => h.running ▸ hf) rfl (fun _ hj => hj) id fun e hk he => ?_
  cases hrun : s.running with
  | false => rw [keys, inv.stopped hrun x hx'] at hk; cases hk
  | true =>
    rcases he with he | he
    · exact (h.kept hrun e he).imp id And.left
    · exact Or.inr (h.dbuf e he)

theorem syncInv_updClient (s : Server) (c : Nat) (f : Cli → Cli) (inv : SyncInv s)
    (hf : ∀ cl, CliOk s cl → CliOk s (f cl)) : SyncInv (s.updClient c f) := by
  have h := forall_updClient s c f (fun x => CliOk s x.2) inv.cli fun cl _ => hf cl
  rw [updClient_rest] at h ⊢
  exact SyncInv.of_cli inv.worldNodup (by rw [← updClient_rest]; exact nodup_updClient s c f inv.clientsNodup) h

theorem syncInv_setVisibility (s : Server) (c e : Nat) (visible : Bool) (inv : SyncInv s) :
    SyncInv (s.setVisibility c e visible) := by
  refine syncInv_updClient s c _ inv fun cl h => ⟨h.stopped, h.unauth, visNodup_setCell cl e _ h.sync.nodup, fun j => ?_⟩
  obtain ⟨g, i1, i2⟩ := h.sync.ghost j
  -- the entity's own cell takes a `show_` / `hide` step, and so does its ghost; `held` is untouched
  by_cases hj : j = e
  · subst hj
    refine ⟨Vis.Ghost.step s.white g (if visible then .show_ else .hide), ?_, fun hk => (i2 hk).imp (fun hh => ?_) id⟩
    · rw [cell_setCell, if_pos rfl]
      exact (Vis.step_preserves s.white (cell cl j) g _ i1).1
    · cases visible <;> exact hh
  · refine ⟨g, ?_, i2⟩
    rw [cell_setCell, if_neg hj]
    exact i1

theorem CliOk.transport_cli {s : Server} {cl cl' : Cli} (h : CliOk s cl) (hv : cl'.vis = cl.vis) (hk : cl'.mutTick = cl.mutTick)
    (ha : cl'.authorized = cl.authorized) : CliOk s cl' :=
  h.transport rfl id hv (fun _ hj => by unfold keys at hj ⊢; rw [← hk]; exact hj) (fun hf => ha ▸ hf) fun _ _ he => he

theorem syncInv_authorize (s : Server) (c : Nat) (inv : SyncInv s) : SyncInv (s.authorize c) := by
  refine syncInv_updClient s c _ inv fun cl h => ?_
  split
  · exact h
  · exact CliOk.empty s _ rfl rfl

theorem syncInv_connect (s : Server) (c : Nat) (a : Bool) (inv : SyncInv s) : SyncInv (s.connect c a) := by
  refine SyncInv.of_cli inv.worldNodup (nodup_aset _ _ _ inv.clientsNodup) fun x hx => ?_
  rcases (mem_aset _ _ _ _).mp hx with rfl | ⟨hm, _⟩
  · exact CliOk.empty _ _ rfl rfl
  · exact inv.cli x hm

theorem init_sync : SyncInv {} :=
  SyncInv.of_cli List.nodup_nil List.nodup_nil fun _ hx => nomatch hx

theorem syncInv_mapClients (s s' : Server) (F : Nat × Cli → Nat × Cli) (inv : SyncInv s) (hw : s'.world = s.world)
    (hc : s'.clients = s.clients.map F) (hk : ∀ x, (F x).1 = x.1) (hF : ∀ x ∈ s.clients, CliOk s' (F x).2) :
    SyncInv s' := by
  refine SyncInv.of_cli (hw ▸ inv.worldNodup) ?_ ?_
  · rw [hc, List.map_map, show (fun x => x.1) ∘ F = (·.1) from funext hk]
    exact inv.clientsNodup
  · rw [hc]
    exact List.forall_mem_map.mpr hF

theorem preRun_sync (s : Server) (ticked : Bool) (ms : Nat) (inv : SyncInv s) : SyncInv (preRun s ticked ms) := by
  rw [preRun_eq]
  refine syncInv_mapClients s _ (fun x => (x.1, preG s ms x.2)) inv rfl rfl (fun _ => rfl) fun x hx => ?_
  exact (inv.cli x hx).transport rfl id (preG_vis s ms x.2) (fun j => (preG_keys s ms x.2 j).mp)
    (fun hf => preG_authorized s ms x.2 ▸ hf) fun _ _ he => he

theorem syncInv_ranFrame (p : Server) (parts : Nat → List (List Nat)) (inv : SyncInv p) (hrun : p.running = true) :
    SyncInv (ranFrame p parts) := by
  refine syncInv_mapClients p _ (ranClient p parts) inv rfl rfl (fun _ => rfl) fun x hx => ?_
  have h := inv.cli x hx
  refine ⟨fun hf => (nomatch hrun.symm.trans hf), ?_, ?_⟩ <;> unfold ranClient <;> split
  · rename_i ha
    intro hf
    rw [afterRun_authorized, ha] at hf
    cases hf
  · exact h.unauth
  · exact (run_sync p (p.now + 1) p.elapsed (parts x.1) x.2 h.sync).1
  · rename_i ha
    exact h.sync.nokeys _ _ (h.unauth (Bool.eq_false_iff.mpr ha))

theorem ranClient_view (p : Server) (parts : Nat → List (List Nat)) (inv : SyncInv p) (x : Nat × Cli)
    (hx : x ∈ p.clients) (ha : x.2.authorized = true) (e : Nat) :
    e ∈ keys (ranClient p parts x).2 ↔
      marked p.world e ∧ Vis.isVisible p.white (cell (ranClient p parts x).2 e) = true := by
  unfold ranClient
  rw [if_pos ha]
  exact (run_sync p (p.now + 1) p.elapsed (parts x.1) x.2 (inv.sync x hx)).2 e

theorem syncInv_fullFrame (s : Server) (ticked : Bool) (ms : Nat) (parts : Nat → List (List Nat)) (inv : SyncInv s) :
    SyncInv (s.fullFrame ticked ms parts) := by
  cases hr : s.running with
  | false =>
    rw [fullFrame_of_stopped s ticked ms parts hr]
    cases hl : s.lastRunning with
    | false => exact inv.transport rfl rfl rfl rfl fun _ => hr
    | true => exact SyncInv.of_cli inv.worldNodup List.nodup_nil fun _ hx => nomatch hx
  | true =>
    have invp := preRun_sync s ticked ms inv
    cases hc : (preRun s ticked ms).tickChanged with
    | false =>
      rw [fullFrame_of_idle s ticked ms parts hr hc]
      exact invp.transport rfl rfl rfl rfl id
    | true =>
      rw [fullFrame_of_ran s ticked ms parts hr hc]
      exact syncInv_ranFrame _ parts invp (by rw [preRun_eq]; exact hr)

theorem fullFrame_view (s : Server) (ticked : Bool) (ms : Nat) (parts : Nat → List (List Nat)) (inv : SyncInv s)
    (hr : s.running = true) (hc : (preRun s ticked ms).tickChanged = true) :
    ∀ x ∈ (s.fullFrame ticked ms parts).clients, x.2.authorized = true →
      ∀ e, e ∈ keys x.2 ↔ marked (s.fullFrame ticked ms parts).world e ∧
        Vis.isVisible (s.fullFrame ticked ms parts).white (cell x.2 e) = true := by
  rw [fullFrame_of_ran s ticked ms parts hr hc]
  intro x hx ha
  obtain ⟨y, hy, rfl⟩ := List.mem_map.mp hx
  exact ranClient_view _ parts (preRun_sync s ticked ms inv) y hy ((ranClient_authorized _ parts y).symm.trans ha)

theorem diff_of_frame (p : Server) (parts : Nat → List (List Nat)) (inv : SyncInv p) (x : Nat × Cli)
    (hx : x ∈ p.clients) (ha : x.2.authorized = true) (u : Update) (hu : (runClient p (p.now + 1) x.2).2.update = some u) :
    Diff (· ∈ keys x.2) (· ∈ keys (ranClient p parts x).2) (· ∈ u.despawns) (· ∈ u.changes.map (·.ent)) := by
  unfold ranClient
  rw [if_pos ha, runClient_update_some hu]
  exact diff_of_run p (p.now + 1) p.elapsed (parts x.1) x.2 (inv.sync x hx)

/-- without an update message the tracked set is the same: both sections are empty -/
theorem frame_silent (p : Server) (parts : Nat → List (List Nat)) (inv : SyncInv p) (x : Nat × Cli)
    (hx : x ∈ p.clients) (ha : x.2.authorized = true) (hn : (runClient p (p.now + 1) x.2).2.update = none) (e : Nat) :
    e ∈ keys (ranClient p parts x).2 ↔ e ∈ keys x.2 := by
  unfold ranClient
  rw [if_pos ha]
  have he := runClient_update_none hn
  refine (diff_of_run p (p.now + 1) p.elapsed (parts x.1) x.2 (inv.sync x hx)).silent (fun e h => ?_) (fun e h => ?_) e
  · rw [show runDespawns p x.2 = [] from Update.despawns_of_isEmpty he] at h
    cases h
  · rw [show runChanged p (p.now + 1) x.2 = [] from congrArg (List.map MsgEnt.ent) (Update.changes_of_isEmpty he)] at h
    cases h

theorem frame_diff (p : Server) (parts : Nat → List (List Nat)) (inv : SyncInv p) (x : Nat × Cli)
    (hx : x ∈ p.clients) (ha : x.2.authorized = true) :
    (∀ u, (runClient p (p.now + 1) x.2).2.update = some u →
      (∀ e, e ∈ keys x.2 → e ∉ keys (ranClient p parts x).2 → e ∈ u.despawns) ∧
      (∀ e, e ∈ keys (ranClient p parts x).2 → e ∉ keys x.2 → e ∈ u.changes.map (·.ent)) ∧
      (∀ e, e ∈ u.despawns → e ∈ keys (ranClient p parts x).2 → e ∈ u.changes.map (·.ent)) ∧
      (∀ e, e ∈ u.changes.map (·.ent) → e ∈ keys (ranClient p parts x).2)) ∧
    ((runClient p (p.now + 1) x.2).2.update = none →
      ∀ e, e ∈ keys (ranClient p parts x).2 ↔ e ∈ keys x.2) :=
  ⟨fun u hu => have d := diff_of_frame p parts inv x hx ha u hu; ⟨d.lost, d.gained, d.resent, d.changed⟩,
   frame_silent p parts inv x hx ha⟩

/-- what a receiver that applies DESPAWNS and then CHANGES holds afterwards -/
def applyKeys (held : List Nat) (u : Option Update) : List Nat :=
  match u with
  | none => held
  | some u => (held.filter fun e => !u.despawns.contains e) ++ u.changes.map (·.ent)

theorem applyKeys_tracks (p : Server) (parts : Nat → List (List Nat)) (inv : SyncInv p) (x : Nat × Cli)
    (hx : x ∈ p.clients) (ha : x.2.authorized = true) (held : List Nat) (hh : ∀ e, e ∈ held ↔ e ∈ keys x.2) :
    ∀ e, e ∈ applyKeys held (runClient p (p.now + 1) x.2).2.update ↔ e ∈ keys (ranClient p parts x).2 := by
  intro e
  cases hu : (runClient p (p.now + 1) x.2).2.update with
  | none => exact (hh e).trans (frame_silent p parts inv x hx ha hu e).symm
  | some u =>
    unfold applyKeys
    simp only [List.mem_append, List.mem_filter_not_contains, hh e]
    exact (diff_of_frame p parts inv x hx ha u hu).apply e

theorem frame_lost_despawned (p : Server) (parts : Nat → List (List Nat)) (inv : SyncInv p) (x : Nat × Cli)
    (hx : x ∈ p.clients) (ha : x.2.authorized = true) (e : Nat) (hk : e ∈ keys x.2)
    (hnv : ¬ (marked p.world e ∧ Vis.isVisible p.white (cell (ranClient p parts x).2 e) = true)) :
    ∃ u, (runClient p (p.now + 1) x.2).2.update = some u ∧ e ∈ u.despawns := by
  have hnk : e ∉ keys (ranClient p parts x).2 := fun h => hnv ((ranClient_view p parts inv x hx ha e).mp h)
  cases hu : (runClient p (p.now + 1) x.2).2.update with
  | none => exact absurd ((frame_silent p parts inv x hx ha hu e).mpr hk) hnk
  | some u => exact ⟨u, rfl, (diff_of_frame p parts inv x hx ha u hu).lost e hk hnk⟩

theorem frame_gained_whole (p : Server) (parts : Nat → List (List Nat)) (inv : SyncInv p) (x : Nat × Cli)
    (hx : x ∈ p.clients) (ha : x.2.authorized = true) (e : Nat) (hk : e ∉ keys x.2)
    (hv : marked p.world e ∧ Vis.isVisible p.white (cell (ranClient p parts x).2 e) = true) :
    ∃ u, (runClient p (p.now + 1) x.2).2.update = some u ∧ e ∈ u.changes.map (·.ent) := by
  have hk' : e ∈ keys (ranClient p parts x).2 := (ranClient_view p parts inv x hx ha e).mpr hv
  cases hu : (runClient p (p.now + 1) x.2).2.update with
  | none => exact absurd ((frame_silent p parts inv x hx ha hu e).mp hk') hk
  | some u => exact ⟨u, rfl, (diff_of_frame p parts inv x hx ha u hu).gained e hk' hk⟩

end Replicon.Srv

namespace Replicon.Joint
open Replicon.Srv

/-- entity identifiers are never reused (Bevy's `Entity` carries a generation) -/
def LegalOp (s : Server) : Op → Prop
  | .spawn e _ _ => e ∉ s.world.map (·.1)
  | _ => True

/-- every operation of the history is `LegalOp` in the state it is applied to -/
def Legal : St → List Op → Prop
  | _, [] => True
  | st, op :: ops => LegalOp st.srv op ∧ Legal (step st op).1 ops

instance (s : Server) (op : Op) : Decidable (LegalOp s op) := by
  cases op <;> unfold LegalOp <;> infer_instance

def decLegal : ∀ (st : St) (ops : List Op), Decidable (Legal st ops)
  | _, [] => isTrue trivial
  | st, op :: ops =>
    match (inferInstance : Decidable (LegalOp st.srv op)), decLegal (step st op).1 ops with
    | isTrue h1, isTrue h2 => isTrue ⟨h1, h2⟩
    | isFalse h1, _ => isFalse fun h => h1 h.1
    | _, isFalse h2 => isFalse fun h => h2 h.2

instance (st : St) (ops : List Op) : Decidable (Legal st ops) := decLegal st ops

theorem frame_srv (st : St) (ticked : Bool) (ms : Nat) (parts : Nat → List (List Nat)) :
    (frame st ticked ms parts).1.srv = st.srv.fullFrame ticked ms parts := rfl

theorem sync_step (st : St) (op : Op) (inv : SyncInv st.srv) (hl : LegalOp st.srv op) :
    SyncInv (step st op).1.srv := by
  cases op with
  | spawn e m cs => exact syncInv_worldStep _ _ inv (spawn_worldStep st.srv e m cs inv.worldNodup hl)
  | vis c e b => exact syncInv_setVisibility st.srv c e b inv
  | map c e p => exact syncInv_updClient st.srv c _ inv fun _ h => h.transport_cli rfl rfl rfl
  | connect c a => exact syncInv_connect st.srv c a inv
  | authorize c => exact syncInv_authorize st.srv c inv
  | disconnect c =>
    exact SyncInv.of_cli inv.worldNodup (nodup_adel _ _ inv.clientsNodup) fun x hx => inv.cli x ((mem_adel _ _ _).mp hx).1
  | stop => exact SyncInv.of_cli inv.worldNodup List.nodup_nil fun _ hx => nomatch hx
  | start => exact inv.transport rfl rfl rfl rfl fun hr => nomatch hr
  | ack c idxs => exact syncInv_updClient st.srv c _ inv fun _ h => h.transport_cli rfl rfl rfl
  | emit em => exact inv
  | frame t ms parts => exact syncInv_fullFrame st.srv t ms parts inv
  -- `despawn`, `insert`, `mutate`, `remove`, `mark`
  | _ => exact syncInv_worldStep _ _ inv ((step_worldOp st _ rfl).worldStep inv.worldNodup)

theorem sync_run (ops : List Op) : ∀ (st : St), SyncInv st.srv → Legal st ops → SyncInv (run st ops).1.srv := by
  induction ops with
  | nil => intro st inv _; exact inv
  | cons op ops ih =>
    intro st inv hl
    exact ih (step st op).1 (sync_step st op inv hl.1) hl.2

theorem frame_out_of_client (st : St) (ticked : Bool) (ms : Nat) (parts : Nat → List (List Nat))
    (hr : st.srv.running = true) (hc : (preRun st.srv ticked ms).tickChanged = true)
    (c : Nat) (cl : Cli) (hm : (c, cl) ∈ (preRun st.srv ticked ms).clients) (ha : cl.authorized = true) :
    (c, (runClient (preRun st.srv ticked ms) ((preRun st.srv ticked ms).now + 1) cl).2) ∈ (frame st ticked ms parts).2.1 := by
  rw [frame_outs_eq st ticked ms parts hr hc]
  exact (mem_runAll_outs _ c _).mpr ⟨cl, hm, ha, rfl⟩

theorem frame_out_tracks (st : St) (inv : SyncInv st.srv) (ticked : Bool) (ms : Nat) (parts : Nat → List (List Nat))
    (hr : st.srv.running = true) (hc : (preRun st.srv ticked ms).tickChanged = true)
    (c : Nat) (o : ClientOut) (hm : (c, o) ∈ (frame st ticked ms parts).2.1) :
    ∃ cl cl', (c, cl) ∈ (preRun st.srv ticked ms).clients ∧ cl.authorized = true ∧
      (c, cl') ∈ (frame st ticked ms parts).1.srv.clients ∧
      ∀ held : List Nat, (∀ e, e ∈ held ↔ e ∈ keys cl) → ∀ e, e ∈ applyKeys held o.update ↔ e ∈ keys cl' := by
  rw [frame_outs_eq st ticked ms parts hr hc] at hm
  obtain ⟨cl, hcl, ha, rfl⟩ := (mem_runAll_outs _ c o).mp hm
  refine ⟨cl, (ranClient (preRun st.srv ticked ms) parts (c, cl)).2, hcl, ha, ?_,
    applyKeys_tracks (preRun st.srv ticked ms) parts (preRun_sync st.srv ticked ms inv) (c, cl) hcl ha⟩
  rw [frame_srv, fullFrame_of_ran st.srv ticked ms parts hr hc]
  exact List.mem_map_of_mem (f := ranClient (preRun st.srv ticked ms) parts) hcl

theorem lose_of_sync (st : St) (inv : SyncInv st.srv) (ticked : Bool) (ms : Nat) (parts : Nat → List (List Nat))
    (hr : st.srv.running = true) (hc : (preRun st.srv ticked ms).tickChanged = true)
    (c : Nat) (cl : Cli) (hm : (c, cl) ∈ (preRun st.srv ticked ms).clients) (ha : cl.authorized = true) (e : Nat)
    (hk : e ∈ keys cl)
    (hnv : ¬ (marked (preRun st.srv ticked ms).world e ∧
      Vis.isVisible (preRun st.srv ticked ms).white (cell (ranClient (preRun st.srv ticked ms) parts (c, cl)).2 e) = true)) :
    ∃ o u, (c, o) ∈ (frame st ticked ms parts).2.1 ∧ o.update = some u ∧ e ∈ u.despawns := by
  obtain ⟨u, hu, he⟩ := frame_lost_despawned _ parts (preRun_sync st.srv ticked ms inv) (c, cl) hm ha e hk hnv
  exact ⟨_, u, frame_out_of_client st ticked ms parts hr hc c cl hm ha, hu, he⟩

theorem gain_of_sync (st : St) (inv : SyncInv st.srv) (ticked : Bool) (ms : Nat) (parts : Nat → List (List Nat))
    (hr : st.srv.running = true) (hc : (preRun st.srv ticked ms).tickChanged = true)
    (c : Nat) (cl : Cli) (hm : (c, cl) ∈ (preRun st.srv ticked ms).clients) (ha : cl.authorized = true) (e : Nat)
    (hk : e ∉ keys cl)
    (hv : marked (preRun st.srv ticked ms).world e ∧
      Vis.isVisible (preRun st.srv ticked ms).white (cell (ranClient (preRun st.srv ticked ms) parts (c, cl)).2 e) = true) :
    ∃ o u, (c, o) ∈ (frame st ticked ms parts).2.1 ∧ o.update = some u ∧ e ∈ u.changes.map (·.ent) := by
  obtain ⟨u, hu, he⟩ := frame_gained_whole _ parts (preRun_sync st.srv ticked ms inv) (c, cl) hm ha e hk hv
  exact ⟨_, u, frame_out_of_client st ticked ms parts hr hc c cl hm ha, hu, he⟩

theorem sync_empty (s : Server) (hw : s.world = []) (hc : s.clients = []) : SyncInv s :=
  SyncInv.of_cli (hw ▸ List.nodup_nil) (hc ▸ List.nodup_nil) fun x hx => nomatch (hc ▸ hx : x ∈ [])

theorem history_sync (s0 : Server) (hw : s0.world = []) (hc0 : s0.clients = []) (ops : List Op)
    (hl : Legal { srv := s0 } ops) (ticked : Bool) (ms : Nat) (parts : Nat → List (List Nat))
    (hr : (run { srv := s0 } ops).1.srv.running = true)
    (hc : (preRun (run { srv := s0 } ops).1.srv ticked ms).tickChanged = true) :
    (∀ x ∈ (frame (run { srv := s0 } ops).1 ticked ms parts).1.srv.clients, x.2.authorized = true →
      ∀ e, e ∈ keys x.2 ↔
        marked (frame (run { srv := s0 } ops).1 ticked ms parts).1.srv.world e ∧
        Vis.isVisible (frame (run { srv := s0 } ops).1 ticked ms parts).1.srv.white (cell x.2 e) = true) ∧
    (∀ c o, (c, o) ∈ (frame (run { srv := s0 } ops).1 ticked ms parts).2.1 →
      ∃ cl cl', (c, cl) ∈ (preRun (run { srv := s0 } ops).1.srv ticked ms).clients ∧ cl.authorized = true ∧
        (c, cl') ∈ (frame (run { srv := s0 } ops).1 ticked ms parts).1.srv.clients ∧
        ∀ held : List Nat, (∀ e, e ∈ held ↔ e ∈ keys cl) → ∀ e, e ∈ applyKeys held o.update ↔ e ∈ keys cl') :=
  have inv := sync_run ops _ (sync_empty s0 hw hc0) hl
  ⟨fullFrame_view _ ticked ms parts inv hr hc, frame_out_tracks _ inv ticked ms parts hr hc⟩

theorem history_pre (s0 : Server) (hw : s0.world = []) (hc0 : s0.clients = []) (ops : List Op)
    (hl : Legal { srv := s0 } ops) (ticked : Bool) (ms : Nat) :
    SyncInv (preRun (run { srv := s0 } ops).1.srv ticked ms) :=
  preRun_sync _ ticked ms (sync_run ops _ (sync_empty s0 hw hc0) hl)

end Replicon.Joint
