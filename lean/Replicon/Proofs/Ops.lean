import Replicon.Model.Joint
import Replicon.Proofs.AList
/-
The operations between frames, by class.  `insert`, `mutate`, `remove`, `mark` and `despawn` are
analysed once, into the normal form `WorldOp` (`step_worldOp`), and every invariant is shown
preserved by the pieces of that form; `spawn` is a case of its own wherever the operations are gone
through.  Client operations go through `updClient`, which touches only the clients.
-/
namespace Replicon.Srv

/-- the entity exists and carries the replication marker (`Replicated`) -/
def marked (world : List (Nat × SEnt)) (e : Nat) : Prop := ∃ ent, (e, ent) ∈ world ∧ ent.marker.isSome = true

theorem marked_aset (W : List (Nat × SEnt)) (k e : Nat) (v : SEnt) :
    marked (aset W k v) e ↔ if e = k then v.marker.isSome = true else marked W e := by
  unfold marked
  split
  · rename_i h
    subst h
    constructor
    · rintro ⟨ent, hm, hs⟩
      rcases (mem_aset _ _ _ _).mp hm with h' | ⟨_, h'⟩
      · cases h'; exact hs
      · exact absurd rfl h'
    · exact fun hs => ⟨v, (mem_aset _ _ _ _).mpr (Or.inl rfl), hs⟩
  · rename_i h
    constructor
    · rintro ⟨ent, hm, hs⟩
      rcases (mem_aset _ _ _ _).mp hm with h' | ⟨h', _⟩
      · cases h'; exact absurd rfl h
      · exact ⟨ent, h', hs⟩
    · rintro ⟨ent, hm, hs⟩
      exact ⟨ent, (mem_aset _ _ _ _).mpr (Or.inr ⟨hm, h⟩), hs⟩

theorem marked_aset_other (W : List (Nat × SEnt)) (k e : Nat) (v : SEnt) (h : e ≠ k) :
    marked (aset W k v) e ↔ marked W e := by
  rw [marked_aset, if_neg h]

theorem marked_aset_same (W : List (Nat × SEnt)) (k : Nat) (v : SEnt) :
    marked (aset W k v) k ↔ v.marker.isSome = true := by
  rw [marked_aset, if_pos rfl]

theorem marked_adel (W : List (Nat × SEnt)) (k e : Nat) : marked (adel W k) e ↔ e ≠ k ∧ marked W e := by
  unfold marked
  constructor
  · rintro ⟨ent, hm, hs⟩
    exact ⟨((mem_adel _ _ _).mp hm).2, ent, ((mem_adel _ _ _).mp hm).1, hs⟩
  · rintro ⟨h, ent, hm, hs⟩
    exact ⟨ent, (mem_adel _ _ _).mpr ⟨hm, h⟩, hs⟩

theorem marked_adel_other (W : List (Nat × SEnt)) (k e : Nat) (h : e ≠ k) :
    marked (adel W k) e ↔ marked W e := by
  rw [marked_adel]
  exact and_iff_right h

theorem marked_of_aget (W : List (Nat × SEnt)) (hn : (W.map (·.1)).Nodup) (k : Nat) (ent : SEnt)
    (hg : aget W k = some ent) : marked W k ↔ ent.marker.isSome = true := by
  constructor
  · rintro ⟨ent', hm, hs⟩
    cases (aget_of_mem_nodup W k ent' hn hm).symm.trans hg
    exact hs
  · exact fun hs => ⟨ent, mem_of_aget _ _ _ hg, hs⟩

/-! ### `leaveReplication` (the `OnRemove<Replicated>` observer), by whether the server runs -/

theorem leave_running (s : Server) (e : Nat) (h : s.running = true) :
    s.leaveReplication e = { s with despawnBuf := s.despawnBuf ++ [e], removalBuf := adel s.removalBuf e } := by
  unfold Server.leaveReplication
  rw [if_pos h]

theorem leave_stopped (s : Server) (e : Nat) (h : s.running = false) : s.leaveReplication e = s := by
  unfold Server.leaveReplication
  rw [if_neg (by rw [h]; exact Bool.false_ne_true)]

theorem leave_world (s : Server) (e : Nat) : (s.leaveReplication e).world = s.world := by
  cases hr : s.running
  · rw [leave_stopped s e hr]
  · rw [leave_running s e hr]

/-- `s'` differs from `s` at most in the world, the despawn buffer, the removal buffer and this frame's
removal events; any other field `f` is read off by `congrArg f h` -/
def WorldOnly (s s' : Server) : Prop :=
  s' = { s with world := s'.world, despawnBuf := s'.despawnBuf, removalBuf := s'.removalBuf, pendingRem := s'.pendingRem }

theorem WorldOnly.setWorld {s s' : Server} (h : WorldOnly s s') (W : List (Nat × SEnt)) (pr : List (Nat × Nat)) :
    WorldOnly s { s' with world := W, pendingRem := pr } := by
  unfold WorldOnly at h ⊢
  rw [h]

theorem leave_worldOnly (s : Server) (e : Nat) : WorldOnly s (s.leaveReplication e) := by
  cases hr : s.running
  · rw [leave_stopped s e hr]; rfl
  · rw [leave_running s e hr]; rfl

/-- what the invariants need to know of a world operation (`spawn` … `mark`) -/
structure WorldStep (s s' : Server) : Prop where
  rest : WorldOnly s s'
  nodup : (s'.world.map (·.1)).Nodup
  dbuf : ∀ e, e ∈ s.despawnBuf → e ∈ s'.despawnBuf
  rbuf : ∀ r, r ∈ s'.removalBuf → r ∈ s.removalBuf
  kept : s.running = true → ∀ e, marked s.world e →
    marked s'.world e ∨ (e ∈ s'.despawnBuf ∧ ∀ r ∈ s'.removalBuf, r.1 ≠ e)

theorem WorldStep.clients {s s' : Server} (h : WorldStep s s') : s'.clients = s.clients := (congrArg Server.clients h.rest :)
theorem WorldStep.white {s s' : Server} (h : WorldStep s s') : s'.white = s.white := (congrArg Server.white h.rest :)
theorem WorldStep.running {s s' : Server} (h : WorldStep s s') : s'.running = s.running := (congrArg Server.running h.rest :)

theorem worldStep_world (s : Server) (W : List (Nat × SEnt)) (pr : List (Nat × Nat)) (hn : (W.map (·.1)).Nodup)
    (hW : ∀ j, marked s.world j → marked W j) : WorldStep s { s with world := W, pendingRem := pr } :=
  ⟨rfl, hn, fun _ h => h, fun _ h => h, fun _ j h => Or.inl (hW j h)⟩

theorem worldStep_leave (s : Server) (e : Nat) (W : List (Nat × SEnt)) (hn : (W.map (·.1)).Nodup)
    (hW : ∀ j, j ≠ e → marked s.world j → marked W j) : WorldStep s { s.leaveReplication e with world := W } := by
  cases hr : s.running with
  | false =>
    rw [leave_stopped s e hr]
    exact ⟨rfl, hn, fun _ h => h, fun _ h => h, fun h => nomatch hr.symm.trans h⟩
  | true =>
    rw [leave_running s e hr]
    refine ⟨rfl, hn, fun _ h => List.mem_append_left _ h, fun r h => ((mem_adel _ _ _).mp h).1, fun _ j hj => ?_⟩
    by_cases hje : j = e
    · exact Or.inr ⟨hje ▸ List.mem_append_right _ List.mem_cons_self, fun r h => hje ▸ ((mem_adel _ _ _).mp h).2⟩
    · exact Or.inl (hW j hje hj)

theorem spawn_worldStep (s : Server) (e : Nat) (m : Bool) (cs : List (Nat × Nat))
    (hw : (s.world.map (·.1)).Nodup) (hf : e ∉ s.world.map (·.1)) : WorldStep s (s.spawn e m cs) := by
  refine worldStep_world s _ s.pendingRem (nodup_aset _ _ _ hw) fun j hj => ?_
  have hne : j ≠ e := fun he => hf (he ▸ hj.elim fun ent h => List.mem_map_of_mem (f := (·.1)) h.1)
  exact (marked_aset_other _ _ _ _ hne).mpr hj

theorem worldStep_aset (s : Server) (e : Nat) (ent ent' : SEnt) (pr : List (Nat × Nat)) (hw : (s.world.map (·.1)).Nodup)
    (hg : aget s.world e = some ent) (hm : ent.marker.isSome = true → ent'.marker.isSome = true) :
    WorldStep s { s with world := aset s.world e ent', pendingRem := pr } := by
  refine worldStep_world s _ pr (nodup_aset _ _ _ hw) fun j hj => ?_
  rw [marked_aset]
  split
  · rename_i hje
    exact hm ((marked_of_aget _ hw _ _ hg).mp (hje ▸ hj))
  · exact hj

/-! ### `insert`, `mutate`, `remove`, `mark`, `despawn` in one form -/

def Server.putEnt (s : Server) (e : Nat) (ent' : SEnt) (rem : List Nat) : Server :=
  { s with world := aset s.world e ent', pendingRem := s.pendingRem ++ rem.map fun k => (e, k) }

theorem putEnt_nil (s : Server) (e : Nat) (ent' : SEnt) : s.putEnt e ent' [] = { s with world := aset s.world e ent' } := by
  unfold Server.putEnt
  rw [List.map_nil, List.append_nil]

/-- what the invariants on component kinds need to know of how an operation changes an entity's components -/
structure CompsStep (now : Nat) (cs cs' : List (Nat × Comp)) (rem : List Nat) : Prop where
  stamp : ∀ k c, aget cs' k = some c → (∃ c0, aget cs k = some c0 ∧ c0.added = c.added) ∨ c.added = now
  lost : ∀ k, aget cs' k = none → aget cs k = none ∨ k ∈ rem
  gone : ∀ k, k ∈ rem → aget cs' k = none

theorem CompsStep.refl (now : Nat) (cs : List (Nat × Comp)) : CompsStep now cs cs [] :=
  ⟨fun _ c h => Or.inl ⟨c, h, rfl⟩, fun _ h => Or.inl h, fun _ h => nomatch h⟩

theorem CompsStep.aset (now : Nat) (cs : List (Nat × Comp)) (k : Nat) (c : Comp)
    (h : (∃ c0, aget cs k = some c0 ∧ c0.added = c.added) ∨ c.added = now) : CompsStep now cs (aset cs k c) [] := by
  refine ⟨fun k' c' hk => ?_, fun k' hk => ?_, fun _ h => nomatch h⟩
  · rw [aget_aset] at hk
    split at hk
    · rename_i he
      rw [← Option.some.inj hk, he]; exact h
    · exact Or.inl ⟨c', hk, rfl⟩
  · rw [aget_aset] at hk
    split at hk
    · cases hk
    · exact Or.inl hk

theorem CompsStep.adel (now : Nat) (cs : List (Nat × Comp)) (k : Nat) : CompsStep now cs (adel cs k) [k] := by
  refine ⟨fun k' c' hk => ?_, fun k' hk => ?_, fun k' hk => ?_⟩
  · exact Or.inl ⟨c', (aget_adel_some hk).2, rfl⟩
  · rw [aget_adel] at hk
    split at hk
    · rename_i he; exact Or.inr (he ▸ List.mem_cons_self)
    · exact Or.inl hk
  · rw [List.mem_singleton.mp hk]; exact aget_adel_same cs k

inductive WorldOp (s : Server) : Server → Prop
  | none : WorldOp s s
  | comps (e : Nat) (ent : SEnt) (cs : List (Nat × Comp)) (rem : List Nat) (hg : aget s.world e = some ent)
      (hc : CompsStep s.now ent.comps cs rem) : WorldOp s (s.putEnt e { ent with comps := cs } rem)
  | markOn (e : Nat) (ent : SEnt) (hg : aget s.world e = some ent) (hm : ent.marker.isSome = false) :
      WorldOp s (s.putEnt e { ent with marker := some s.now } [])
  | markOff (e : Nat) (ent : SEnt) (hg : aget s.world e = some ent) (hm : ent.marker.isSome = true) :
      WorldOp s ((s.leaveReplication e).putEnt e { ent with marker := none } [])
  | despawn (e : Nat) (ent : SEnt) (hg : aget s.world e = some ent) :
      WorldOp s { (if ent.marker.isSome then s.leaveReplication e else s) with
        world := adel (if ent.marker.isSome then s.leaveReplication e else s).world e }

theorem insert_worldOp (s : Server) (e k v : Nat) : WorldOp s (s.insert e k v) := by
  unfold Server.insert
  cases hg : aget s.world e with
  | none => exact .none
  | some ent =>
    simp only
    rw [← putEnt_nil]
    refine .comps e ent _ [] hg (CompsStep.aset _ _ _ _ ?_)
    cases hold : aget ent.comps k with
    | none => exact Or.inr rfl
    | some old => exact Or.inl ⟨old, rfl, rfl⟩

theorem mutate_worldOp (s : Server) (e k v : Nat) : WorldOp s (s.mutate e k v) := by
  unfold Server.mutate
  cases hg : aget s.world e with
  | none => exact .none
  | some ent =>
    simp only
    cases hold : aget ent.comps k with
    | none => exact .none
    | some old =>
      simp only
      rw [← putEnt_nil]
      exact .comps e ent _ [] hg (CompsStep.aset _ _ _ _ (Or.inl ⟨old, hold, rfl⟩))

theorem remove_worldOp (s : Server) (e k : Nat) : WorldOp s (s.remove e k) := by
  unfold Server.remove
  cases hg : aget s.world e with
  | none => exact .none
  | some ent =>
    simp only
    split
    · exact .none
    · exact .comps e ent _ [k] hg (CompsStep.adel _ _ _)

theorem mark_worldOp (s : Server) (e : Nat) (on : Bool) : WorldOp s (s.mark e on) := by
  unfold Server.mark
  cases hg : aget s.world e with
  | none => exact .none
  | some ent =>
    simp only
    cases on <;> cases hm : ent.marker
    · exact .none
    · rw [if_neg Bool.false_ne_true, if_neg (by simp), ← putEnt_nil]
      exact .markOff e ent hg (by rw [hm]; rfl)
    · rw [if_pos rfl, if_neg (by simp), ← putEnt_nil]
      exact .markOn e ent hg (by rw [hm]; rfl)
    · exact .none

theorem despawn_worldOp (s : Server) (e : Nat) : WorldOp s (s.despawn e) := by
  unfold Server.despawn
  cases hg : aget s.world e with
  | none => exact .none
  | some ent => exact .despawn e ent hg

theorem WorldOp.rest {s s' : Server} (h : WorldOp s s') : WorldOnly s s' := by
  cases h with
  | none => rfl
  | comps e ent cs rem hg hc => rfl
  | markOn e ent hg hm => rfl
  | markOff e ent hg hm => exact (leave_worldOnly s e).setWorld _ _
  | despawn e ent hg =>
    split
    · exact (leave_worldOnly s e).setWorld _ _
    · rfl

theorem WorldOp.clients {s s' : Server} (h : WorldOp s s') : s'.clients = s.clients := (congrArg Server.clients h.rest :)

theorem WorldOp.worldStep {s s' : Server} (h : WorldOp s s') (hw : (s.world.map (·.1)).Nodup) : WorldStep s s' := by
  cases h with
  | none => exact worldStep_world s s.world s.pendingRem hw fun _ h => h
  | comps e ent cs rem hg hc => exact worldStep_aset s e ent _ _ hw hg id
  | markOn e ent hg hm => exact worldStep_aset s e ent _ _ hw hg fun _ => rfl
  | markOff e ent hg hm =>
    rw [putEnt_nil, leave_world]
    exact worldStep_leave s e _ (nodup_aset _ _ _ hw) fun j hje hj => (marked_aset_other _ _ _ _ hje).mpr hj
  | despawn e ent hg =>
    split
    · rw [leave_world]
      exact worldStep_leave s e _ (nodup_adel _ _ hw) fun j hje hj => (marked_adel_other _ _ _ hje).mpr hj
    · rename_i hmk
      refine worldStep_world s _ s.pendingRem (nodup_adel _ _ hw) fun j hj => (marked_adel _ _ _).mpr ⟨fun hje => ?_, hj⟩
      exact hmk ((marked_of_aget _ hw _ _ hg).mp (hje ▸ hj))

theorem mem_updClient (s : Server) (c : Nat) (f : Cli → Cli) (x : Nat × Cli) (hn : (s.clients.map (·.1)).Nodup) :
    x ∈ (s.updClient c f).clients → (∃ cl, (c, cl) ∈ s.clients ∧ x = (c, f cl)) ∨ (x ∈ s.clients ∧ x.1 ≠ c) := by
  unfold Server.updClient
  cases h : aget s.clients c with
  | none =>
    intro hx
    right
    refine ⟨hx, ?_⟩
    intro he
    have := aget_of_mem_nodup s.clients x.1 x.2 hn hx
    rw [he, h] at this
    cases this
  | some cl =>
    intro hx
    simp only at hx
    rcases (mem_aset _ _ _ _).mp hx with rfl | ⟨hm, hne⟩
    · left; exact ⟨cl, mem_of_aget _ _ _ h, rfl⟩
    · right; exact ⟨hm, hne⟩

theorem nodup_updClient (s : Server) (c : Nat) (f : Cli → Cli) (hn : (s.clients.map (·.1)).Nodup) :
    ((s.updClient c f).clients.map (·.1)).Nodup := by
  unfold Server.updClient
  cases aget s.clients c with
  | none => exact hn
  | some cl => exact nodup_aset _ _ _ hn

theorem forall_updClient (s : Server) (c : Nat) (f : Cli → Cli) (P : Nat × Cli → Prop) (h : ∀ x ∈ s.clients, P x)
    (hf : ∀ cl, (c, cl) ∈ s.clients → P (c, cl) → P (c, f cl)) : ∀ x ∈ (s.updClient c f).clients, P x := by
  unfold Server.updClient
  cases hg : aget s.clients c with
  | none => exact h
  | some cl =>
    intro x hx
    rcases (mem_aset _ _ _ _).mp hx with rfl | ⟨hm, _⟩
    · exact hf cl (mem_of_aget _ _ _ hg) (h _ (mem_of_aget _ _ _ hg))
    · exact h x hm

theorem updClient_rest (s : Server) (c : Nat) (f : Cli → Cli) :
    s.updClient c f = { s with clients := (s.updClient c f).clients } := by
  unfold Server.updClient
  cases aget s.clients c <;> rfl

theorem aget_updClient_other (s : Server) (c c' : Nat) (f : Cli → Cli) (h : c' ≠ c) :
    aget (s.updClient c f).clients c' = aget s.clients c' := by
  unfold Server.updClient
  cases aget s.clients c with
  | none => rfl
  | some cl => exact aget_aset_other _ _ _ _ h

end Replicon.Srv

namespace Replicon.Joint
open Replicon.Srv

/-- every operation on the world but `spawn` -/
def Op.isWorldOp : Op → Bool
  | .despawn .. | .insert .. | .mutate .. | .remove .. | .mark .. => true
  | _ => false

theorem step_worldOp (st : St) (op : Op) (h : op.isWorldOp = true) : WorldOp st.srv (step st op).1.srv := by
  cases op with
  | despawn e => exact despawn_worldOp st.srv e
  | insert e k v => exact insert_worldOp st.srv e k v
  | mutate e k v => exact mutate_worldOp st.srv e k v
  | remove e k => exact remove_worldOp st.srv e k
  | mark e on => exact mark_worldOp st.srv e on
  | _ => cases h

end Replicon.Joint
