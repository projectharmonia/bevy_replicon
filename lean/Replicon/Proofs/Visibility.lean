import Replicon.Model.Visibility
/-
C08's refinement: the visibility cell of one (client, entity) pair against a ghost that remembers the
most recent setting and whether the client holds the entity.  `Inv` says which cell represents which
ghost; `inv_iff` reads it the other way, so that every fact about a represented ghost is a finite
table.  At the end: what a replication run reads off such a cell.
-/

namespace Replicon.Vis

/-- Ghost state of one (client, entity) pair: the most recent visibility setting (`desired`)
and whether the client currently holds the entity (`held` = it was in the client's view after
the previous replication run). -/
structure Ghost where
  desired : Bool
  held : Bool
deriving Repr, DecidableEq

/-- A fresh entity: the default setting of the policy.  Under the blacklist policy the
visibility machinery treats a fresh entity like one the client already knows; that it is sent
in full the first time is the job of the "replication marker added" check of `collect_changes`,
not of `ClientVisibility`. -/
def Ghost.init (white : Bool) : Ghost := { desired := !white, held := !white }

def Ghost.step (white : Bool) (g : Ghost) : Op → Ghost
  | .show_ => { g with desired := true }
  | .hide => { g with desired := false }
  | .tick => { g with held := g.desired }
  | .despawnTick => Ghost.init white

/-- The cell represents the ghost. -/
def Inv (white : Bool) (c : Cell) (g : Ghost) : Bool :=
  if white then
    match c with
    | ⟨.none, false, false⟩ => !g.desired && !g.held
    | ⟨.none, false, true⟩ => !g.desired && g.held
    | ⟨.a, false, false⟩ => g.desired && g.held
    | ⟨.b, true, false⟩ => g.desired && !g.held
    | _ => false
  else
    match c with
    | ⟨.none, false, false⟩ => g.desired && g.held
    | ⟨.a, true, false⟩ => !g.desired && g.held
    | ⟨.a, false, false⟩ => !g.desired && !g.held
    | ⟨.b, false, true⟩ => g.desired && !g.held
    | _ => false

/-- What a replication run must do for the pair, by the property's text. -/
def sentOk (g : Ghost) (op : Op) (s : Sent) : Bool :=
  match op with
  | .show_ | .hide => s == .nothing
  | .tick =>
    if g.desired then (if g.held then s == .changes else s == .whole)
    else (if g.held then s == .despawn else s == .nothing)
  | .despawnTick => if g.held then s == .despawn else true

instance : Inhabited Op := ⟨.tick⟩

/-- `Inv` read the other way: the one cell that represents a ghost. -/
def cellOf (white : Bool) (g : Ghost) : Cell :=
  match white, g.desired, g.held with
  | true, false, false => ⟨.none, false, false⟩
  | true, false, true => ⟨.none, false, true⟩
  | true, true, true => ⟨.a, false, false⟩
  | true, true, false => ⟨.b, true, false⟩
  | false, true, true => ⟨.none, false, false⟩
  | false, false, true => ⟨.a, true, false⟩
  | false, false, false => ⟨.a, false, false⟩
  | false, true, false => ⟨.b, false, true⟩

theorem inv_iff (white : Bool) (c : Cell) (g : Ghost) : Inv white c g = true ↔ c = cellOf white g := by
  rcases c with ⟨i, a, r⟩
  rcases g with ⟨d, h⟩
  cases white <;> cases i <;> cases a <;> cases r <;> cases d <;> cases h <;> decide

theorem isVisible_of_inv (white : Bool) (c : Cell) (g : Ghost) (h : Inv white c g = true) :
    isVisible white c = g.desired := by
  rw [(inv_iff white c g).mp h]
  rcases g with ⟨d, hd⟩
  cases white <;> cases d <;> cases hd <;> rfl

theorem step_preserves (white : Bool) (c : Cell) (g : Ghost) (op : Op) (h : Inv white c g = true) :
    Inv white (step white c op).1 (Ghost.step white g op) = true ∧
    sentOk g op (step white c op).2 = true := by
  rw [(inv_iff white c g).mp h]
  rcases g with ⟨d, hd⟩
  cases white <;> cases d <;> cases hd <;> cases op <;> decide

def runCell (white : Bool) : Cell → List Op → Cell × List Sent
  | c, [] => (c, [])
  | c, op :: ops =>
    let r := step white c op
    let rest := runCell white r.1 ops
    (rest.1, r.2 :: rest.2)

def runGhost (white : Bool) : Ghost → List Op → Ghost
  | g, [] => g
  | g, op :: ops => runGhost white (Ghost.step white g op) ops

def AllSentOk (white : Bool) : Ghost → List Op → List Sent → Prop
  | _, [], [] => True
  | g, op :: ops, s :: ss => sentOk g op s = true ∧ AllSentOk white (Ghost.step white g op) ops ss
  | _, _, _ => False

theorem run_refines (white : Bool) : ∀ (ops : List Op) (c : Cell) (g : Ghost), Inv white c g = true →
    Inv white (runCell white c ops).1 (runGhost white g ops) = true ∧
    AllSentOk white g ops (runCell white c ops).2 := by
  intro ops
  induction ops with
  | nil => intro c g h; exact ⟨h, trivial⟩
  | cons op ops ih =>
    intro c g h
    obtain ⟨h1, h2⟩ := step_preserves white c g op h
    obtain ⟨h3, h4⟩ := ih (step white c op).1 (Ghost.step white g op) h1
    exact ⟨h3, h2, h4⟩

theorem init_inv (white : Bool) : Inv white {} (Ghost.init white) = true := by
  cases white <;> decide

theorem removeDespawned_idem (w : Bool) (c : Cell) :
    removeDespawned w (removeDespawned w c) = removeDespawned w c := by
  rcases c with ⟨i, a, r⟩
  cases w <;> cases i <;> rfl

theorem lost_default (w : Bool) : lost w {} = false := by cases w <;> rfl
theorem drainLost_default (w : Bool) : drainLost w {} = {} := by cases w <;> rfl
theorem update_default (w : Bool) : update w {} = {} := by cases w <;> rfl

theorem isVisible_drainLost (w : Bool) (c : Cell) : isVisible w (drainLost w c) = isVisible w c := by
  cases w <;> rfl

theorem isVisible_removeDespawned (w : Bool) (c : Cell) : isVisible w (removeDespawned w c) = !w := by
  rcases c with ⟨i, a, r⟩
  cases w <;> cases i <;> rfl

end Replicon.Vis

namespace Replicon.Srv

/-- a run for a held entity that is not to be seen sends a despawn, i.e. `drain_lost` reports it -/
theorem inv_held_notlost_desired (w : Bool) (c : Vis.Cell) (g : Vis.Ghost) (h : Vis.Inv w c g = true)
    (hh : g.held = true) (hl : Vis.lost w c = false) : g.desired = true := by
  rcases g with ⟨d, hd⟩
  subst hh
  rw [(Vis.inv_iff w c _).mp h] at hl
  cases w <;> cases d <;> first | rfl | cases hl

/-- a held entity in the despawn buffer is in DESPAWNS: by the first loop or by `drain_lost` -/
theorem inv_held_despawn_sent (w : Bool) (c : Vis.Cell) (g : Vis.Ghost) (h : Vis.Inv w c g = true)
    (hh : g.held = true) :
    Vis.isVisible w c = true ∨ Vis.lost w (Vis.removeDespawned w c) = true := by
  rcases g with ⟨d, hd⟩
  subst hh
  rw [(Vis.inv_iff w c _).mp h]
  cases w <;> cases d <;> decide

theorem inv_desired_held_visible (w : Bool) (c : Vis.Cell) (g : Vis.Ghost) (h : Vis.Inv w c g = true)
    (hd : g.desired = true) (hh : g.held = true) :
    (if w then Vis.stateW (Vis.drainLost w c) else Vis.stateB (Vis.drainLost w c)) = Vis.State.visible := by
  rcases g with ⟨d, hd'⟩
  subst hd hh
  rw [(Vis.inv_iff w c _).mp h]
  cases w <;> rfl

end Replicon.Srv
