import Replicon.Proofs.Varint
import Replicon.Model.EntityCodec
/-
`serialize_entity` / `deserialize_entity` (`Model/EntityCodec.lean`).  On what the encoder wrote, the
decoder's stages give back the parts (the lemmas the round trip of `Props/C15.lean` is assembled
from); on arbitrary bytes every stage is safe (`Res.Safe`), so decoding never panics and yields a
valid identifier.
-/
namespace Replicon

theorem or_pack (idx : Nat) (hi : idx < 4294967296) (g : Nat) :
    4294967296 * g ||| idx = 4294967296 * g + idx :=
  (Nat.two_pow_add_eq_or_of_lt (i := 32) hi g).symm

theorem ValidEntity.idx_lt {idx gen : Nat} (h : ValidEntity idx gen) : idx < 4294967296 := h.1
theorem ValidEntity.gen_pos {idx gen : Nat} (h : ValidEntity idx gen) : 1 ≤ gen := h.2.1
theorem ValidEntity.gen_lt {idx gen : Nat} (h : ValidEntity idx gen) : gen < 2147483648 := h.2.2

theorem tryFromBits_pack (idx gen : Nat) (hi : idx < 4294967296) (h1 : 1 ≤ gen)
    (h2 : gen < 2147483648) :
    entityTryFromBits (4294967296 * gen + idx) = some (idx, gen) := by
  unfold entityTryFromBits
  rw [Nat.mul_add_div (by decide), Nat.div_eq_of_lt hi, Nat.add_zero,
    Nat.mod_eq_of_lt (Nat.lt_trans h2 (by decide)), Nat.mul_add_mod, Nat.mod_eq_of_lt hi]
  exact if_neg (not_or.mpr ⟨Nat.ne_of_gt h1, Nat.not_le.mpr h2⟩)

theorem tryFromBits_valid (bits idx gen : Nat) (h : entityTryFromBits bits = some (idx, gen)) :
    ValidEntity idx gen := by
  unfold entityTryFromBits at h
  split at h
  · cases h
  · next hv =>
    cases h
    exact ⟨Nat.mod_lt _ (by decide), Nat.pos_of_ne_zero (not_or.mp hv).1, Nat.lt_of_not_le (not_or.mp hv).2⟩

theorem decodeGeneration_flag (idx gen : Nat) (rest : List Nat) (h1 : 1 < gen)
    (h2 : gen < 2147483648) :
    decodeGeneration (idx * 2 + 1) (encodeU32 (gen - 1) ++ rest) = .ok (gen, rest) := by
  unfold decodeGeneration
  rw [if_pos (Nat.mul_add_mod_self_right idx 2 1),
    decodeU32_encode _ _ (Nat.lt_of_le_of_lt (Nat.sub_le gen 1) (Nat.lt_trans h2 (by decide)))]
  show (if gen - 1 + 1 < 4294967296 then _ else _) = _
  rw [Nat.sub_add_cancel (Nat.le_of_lt h1), if_pos (Nat.lt_trans h2 (by decide))]

theorem decodeGeneration_noflag (idx : Nat) (rest : List Nat) :
    decodeGeneration (idx * 2) rest = .ok (1, rest) := by
  unfold decodeGeneration
  rw [if_neg (by rw [Nat.mul_mod_left]; decide)]

/-- `flagged` is the index shifted left by one with the generation flag in the low bit. -/
theorem entityFromParts_pack (idx gen flagged : Nat) (rest : List Nat) (hf : flagged / 2 = idx)
    (h : ValidEntity idx gen) : entityFromParts gen flagged rest = .ok ((idx, gen), rest) := by
  unfold entityFromParts
  rw [hf, or_pack idx h.idx_lt, tryFromBits_pack idx gen h.idx_lt h.gen_pos h.gen_lt]

theorem decodeGeneration_safe (fl : Nat) (r1 : List Nat) :
    (decodeGeneration fl r1).Safe fun gr => ∃ pre, r1 = pre ++ gr.2 := by
  unfold decodeGeneration
  split
  · have h := decodeU32_safe r1
    cases hd : decodeU32 r1 with
    | ok gr =>
      obtain ⟨pre, _, hb⟩ := h.of_eq_ok hd
      dsimp only
      split
      · exact ⟨pre, hb⟩
      · trivial
    | err => trivial
    | panic s => exact absurd hd (h.ne_panic s)
  · exact ⟨[], rfl⟩

theorem entityFromParts_safe (gen fl : Nat) (r : List Nat) :
    (entityFromParts gen fl r).Safe fun er => ValidEntity er.1.1 er.1.2 ∧ er.2 = r := by
  unfold entityFromParts
  cases h : entityTryFromBits (4294967296 * gen ||| fl / 2) with
  | none => trivial
  | some e => exact ⟨tryFromBits_valid _ _ _ h, rfl⟩

theorem decodeEntity_safe (bs : List Nat) :
    (decodeEntity bs).Safe fun er => ValidEntity er.1.1 er.1.2 ∧ Rest bs er.2 :=
  (decodeU64_safe bs).bind fun fr h1 =>
    (decodeGeneration_safe fr.1 fr.2).bind fun gr ⟨_, h2⟩ =>
      (entityFromParts_safe gr.1 fr.1 gr.2).mono fun _ ⟨hv, h3⟩ => ⟨hv, h3 ▸ h1.append h2⟩

end Replicon
