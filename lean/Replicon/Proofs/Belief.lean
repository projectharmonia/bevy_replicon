import Replicon.Proofs.Frame
import Replicon.Proofs.Ops

/-!
# The server's belief never runs ahead of the last replication run

`Bel s`: for every client, every tick the server believes an entity to be acknowledged at, and the
run tick of every mutate message still awaiting its acknowledgement, is at most the change tick of
the last replication run (`lastRun`), which lies before the current change tick.  It is the
hypothesis `hbel` of `frame_values_perfect` and the reason a component whose send rate fires and that
is not sent has not changed since the last run.

`Bel` and `CliBel` are definitions with accessors, not structures, so that `C11_history_belief` can
state them unfolded.
-/

namespace Replicon.Srv

def CliBel (L : Nat) (cl : Cli) : Prop :=
  (∀ e t, aget cl.mutTick e = some t → t ≤ L) ∧ (∀ i ∈ cl.inflight, i.tick ≤ L)

def Bel (s : Server) : Prop := s.lastRun < s.now ∧ ∀ x ∈ s.clients, CliBel s.lastRun x.2

theorem CliBel.ticks {L : Nat} {cl : Cli} (b : CliBel L cl) : ∀ e t, aget cl.mutTick e = some t → t ≤ L := b.1
theorem CliBel.inflight {L : Nat} {cl : Cli} (b : CliBel L cl) : ∀ i ∈ cl.inflight, i.tick ≤ L := b.2
theorem Bel.time {s : Server} (b : Bel s) : s.lastRun < s.now := b.1
theorem Bel.cli {s : Server} (b : Bel s) : ∀ x ∈ s.clients, CliBel s.lastRun x.2 := b.2

theorem cliBel_mono (L L' : Nat) (h : L ≤ L') (cl : Cli) (b : CliBel L cl) : CliBel L' cl :=
  ⟨fun e t ht => Nat.le_trans (b.ticks e t ht) h, fun i hi => Nat.le_trans (b.inflight i hi) h⟩

theorem cliBel_empty (L : Nat) (cl : Cli) (h1 : cl.mutTick = []) (h2 : cl.inflight = []) : CliBel L cl := by
  refine ⟨?_, ?_⟩
  · intro e t ht; rw [h1] at ht; cases ht
  · intro i hi; rw [h2] at hi; cases hi

theorem ackOne_bel (L : Nat) (cl : Cli) (idx : Nat) (b : CliBel L cl) : CliBel L (ackOne cl idx) := by
  cases hf : cl.inflight.find? (·.index = idx) with
  | none => rw [ackOne_unknown cl idx hf]; exact b
  | some info =>
    rw [ackOne_known cl idx info hf]
    refine ⟨fun e t ht => ?_, fun i hi => b.inflight i (List.mem_filter.mp hi).1⟩
    -- an acknowledged entity moves to the tick of the acknowledged message, which was in flight
    rcases ackFold_sound info cl.mutTick e with h | ⟨_, _, _, _, h⟩
    · exact b.ticks e t (h ▸ ht)
    · exact Option.some.inj (ht.symm.trans h) ▸ b.inflight info (List.mem_of_find?_eq_some hf)

theorem processAcks_bel (L : Nat) (cl : Cli) (b : CliBel L cl) : CliBel L cl.processAcks := by
  unfold Cli.processAcks
  split
  · exact b
  · exact foldl_inv ackOne (CliBel L) (fun cl i b => ackOne_bel L cl i b) cl.pendingAcks cl b

theorem preG_bel (s : Server) (ms : Nat) (L : Nat) (cl : Cli) (b : CliBel L cl) : CliBel L (preG s ms cl) := by
  unfold preG
  have b1 := processAcks_bel L cl b
  split
  · exact ⟨b1.ticks, fun i hi => b1.inflight i (List.mem_filter.mp hi).1⟩
  · exact b1

theorem afterRun_bel (s : Server) (thisRun time : Nat) (parts : List (List Nat)) (cl : Cli) (L : Nat)
    (hL : L ≤ thisRun) (b : CliBel L cl) : CliBel thisRun (afterRun s thisRun time parts cl) := by
  refine ⟨?_, fun i hi => ?_⟩
  · rw [afterRun_mutTick]
    -- the ticks kept from before the run are at most `L`, the bumped ones are the run's
    refine foldl_inv (fun mt e => aset mt e thisRun) (fun mt => ∀ e t, aget mt e = some t → t ≤ thisRun) ?_ _ _
      (fun e t ht => Nat.le_trans (b.ticks e t (runCl1_mutTick_sub s cl e t ht)) hL)
    intro mt x h e t ht
    rw [aget_aset] at ht
    split at ht
    · exact Nat.le_of_eq (Option.some.inj ht).symm
    · exact h e t ht
  · rcases afterRun_inflight s thisRun time parts cl i hi with h | h
    · exact Nat.le_trans (b.inflight i h) hL
    · exact Nat.le_of_eq h

theorem preRun_bel (s : Server) (ticked : Bool) (ms : Nat) (b : Bel s) : Bel (preRun s ticked ms) := by
  rw [preRun_eq]
  exact ⟨b.time, List.forall_mem_map.mpr fun z hz => preG_bel s ms s.lastRun z.2 (b.cli z hz)⟩

theorem fullFrame_bel (s : Server) (ticked : Bool) (ms : Nat) (parts : Nat → List (List Nat)) (b : Bel s) :
    Bel (s.fullFrame ticked ms parts) := by
  cases hr : s.running with
  | false =>
    rw [fullFrame_of_stopped s ticked ms parts hr]
    refine ⟨Nat.lt_add_right 2 b.time, ?_⟩
    show ∀ x ∈ (if s.lastRunning then [] else s.clients), CliBel s.lastRun x.2
    split
    · exact fun _ h => nomatch h
    · exact b.cli
  | true =>
    have bp := preRun_bel s ticked ms b
    cases hc : (preRun s ticked ms).tickChanged with
    | false =>
      rw [fullFrame_of_idle s ticked ms parts hr hc]
      exact ⟨Nat.lt_add_right 2 bp.time, bp.cli⟩
    | true =>
      -- the run's tick becomes the last run
      rw [fullFrame_of_ran s ticked ms parts hr hc]
      have hle := Nat.le_succ_of_le (Nat.le_of_lt bp.time)
      refine ⟨Nat.lt_succ_self _, List.forall_mem_map.mpr fun z hz => ?_⟩
      show CliBel _ (if z.2.authorized then _ else z.2)
      split
      · exact afterRun_bel _ _ _ _ z.2 _ hle (bp.cli z hz)
      · exact cliBel_mono _ _ hle z.2 (bp.cli z hz)

end Replicon.Srv

namespace Replicon.Joint
open Replicon.Srv

theorem bel_step (st : St) (op : Op) (b : Bel st.srv) : Bel (step st op).1.srv := by
  -- an operation on one client that keeps that client's belief
  have hupd : ∀ c f, (∀ cl, CliBel st.srv.lastRun cl → CliBel st.srv.lastRun (f cl)) → Bel (st.srv.updClient c f) := by
    intro c f hf
    rw [updClient_rest]
    exact ⟨b.time, forall_updClient st.srv c f (fun x => CliBel st.srv.lastRun x.2) b.cli fun cl _ h => hf cl h⟩
  cases op with
  | spawn e m cs => exact b
  | vis c e v => exact hupd c _ fun _ h => h
  | map c e p => exact hupd c _ fun _ h => h
  | ack c idxs => exact hupd c _ fun _ h => h
  | authorize c =>
    refine hupd c _ fun cl h => ?_
    split
    · exact h
    · exact cliBel_empty _ _ rfl rfl
  | connect c a =>
    refine ⟨b.time, fun x hx => ?_⟩
    rcases (mem_aset _ _ _ _).mp hx with rfl | h
    · exact cliBel_empty _ _ rfl rfl
    · exact b.cli x h.1
  | disconnect c => exact ⟨b.time, fun x hx => b.cli x ((mem_adel _ _ _).mp hx).1⟩
  | stop => exact ⟨b.time, fun _ hx => nomatch hx⟩
  | start => exact b
  | emit em => exact b
  | frame t ms parts => exact fullFrame_bel st.srv t ms parts b
  -- `despawn`, `insert`, `mutate`, `remove`, `mark`
  | _ =>
    rw [show (step st _).1.srv = _ from (step_worldOp st _ rfl).rest]
    exact b

theorem bel_run (ops : List Op) : ∀ (st : St), Bel st.srv → Bel (run st ops).1.srv := by
  induction ops with
  | nil => intro st b; exact b
  | cons op ops ih => intro st b; exact ih (step st op).1 (bel_step st op b)

/-- the statement of `C11_history_belief` -/
theorem history_belief (s0 : Server) (hc0 : s0.clients = []) (ht : s0.lastRun < s0.now) (ops : List Op) :
    Bel (run { srv := s0 } ops).1.srv :=
  bel_run ops _ ⟨ht, fun x hx => by rw [show ({ srv := s0 } : St).srv.clients = [] from hc0] at hx; cases hx⟩

end Replicon.Joint
