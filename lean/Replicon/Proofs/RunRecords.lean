import Replicon.Proofs.Kinds

/-!
# The records of one run, server side

A record of a run names distinct kinds, each with the component's current value, and only components
whose path is not `nothing`; a buffered removal names no old present component.  `run_says` puts
these together: what the messages of a run say about one component of a tracked entity.
-/

namespace Replicon.Srv

theorem removal_not_present (p : Server) (kinv : KindInv p) (e : Nat) (ent : SEnt) (hw : (e, ent) ∈ p.world)
    (ks : List Nat) (hr : (e, ks) ∈ p.removalBuf) (k : Nat) (rt : Rate) (comp : Comp)
    (hp : (k, rt, comp) ∈ present p ent) (hold : ¬ comp.added > p.lastRun) : k ∉ ks := by
  intro hk
  have hg : aget p.removalBuf e = some ks := aget_of_mem_nodup p.removalBuf e ks kinv.remNodup hr
  have hpend : pendK p e k := Or.inr (Or.inr (by rw [hg]; exact hk))
  exact hold (kinv.remFresh e ent k comp hw hpend ((mem_present p ent k rt comp).mp hp).2)

theorem record_unique (s : Server) (hn : (s.world.map (·.1)).Nodup) (thisRun : Nat) (cl : Cli)
    (sel : EntOut → Option MsgEnt)
    (hent : ∀ e ent m r, sel (collectEntity s thisRun cl e ent m) = some r → r.ent = e)
    (e : Nat) (ent : SEnt) (mk : Nat) (hw : (e, ent) ∈ s.world) (hmk : ent.marker = some mk) (r : MsgEnt)
    (hto : sel (collectEntity s thisRun cl e ent mk) = some r) :
    ∀ m ∈ (entityOuts s thisRun cl).filterMap (fun x => sel x.2), m.ent = e → m = r :=
  fun m hm he => Option.some.inj ((record_of_entity s hn thisRun cl sel hent e ent mk hw hmk m hm he).symm.trans hto)

/-- a record for entity `e`: distinct kinds, each with the current value of a present component -/
structure RecordOf (s : Server) (ent : SEnt) (e : Nat) (r : MsgEnt) : Prop where
  entity : r.ent = e
  nodup : (r.comps.map (·.1)).Nodup
  values : ∀ k v, (k, v) ∈ r.comps → ∃ rt c, (k, rt, c) ∈ present s ent ∧ v = c.val

theorem RecordOf.aget {s : Server} {ent : SEnt} {e : Nat} {r : MsgEnt} (h : RecordOf s ent e r) (k : Nat)
    (hk : k ∈ r.comps.map (·.1)) : ∃ rt c, (k, rt, c) ∈ present s ent ∧ aget r.comps k = some c.val := by
  obtain ⟨⟨k', v⟩, hkv, rfl⟩ := List.mem_map.mp hk
  obtain ⟨rt, c, hp, rfl⟩ := h.values k' v hkv
  exact ⟨rt, c, hp, aget_of_mem_nodup r.comps k' c.val h.nodup hkv⟩

theorem collect_record_values (s : Server) (hrates : (s.rates.map (·.1)).Nodup) (thisRun : Nat) (cl : Cli) (e : Nat)
    (ent : SEnt) (m : Nat) (r : MsgEnt)
    (h : (collectEntity s thisRun cl e ent m).toUpdate = some r ∨ (collectEntity s thisRun cl e ent m).toMutate = some r) :
    RecordOf s ent e r := by
  have hn := present_keys_nodup s ent hrates
  have hval : ∀ p k v, (k, v) ∈ sentOn s (aget cl.mutTick e) (fresh s cl e m) p ent →
      ∃ rt c, (k, rt, c) ∈ present s ent ∧ v = c.val := by
    intro p k v hm
    obtain ⟨rt, c, hp, _, hv⟩ := mem_sentOn.mp hm
    exact ⟨rt, c, hp, hv⟩
  rcases h with h | h
  · obtain rfl := (collect_toUpdate_some h).record
    refine ⟨rfl, ?_, fun k v hm => (List.mem_append.mp hm).elim (hval _ k v) (hval _ k v)⟩
    rw [List.map_append, List.nodup_append]
    refine ⟨(sentOn_keys_sublist _ _ _ _ _).nodup hn, (sentOn_keys_sublist _ _ _ _ _).nodup hn, ?_⟩
    rintro a ha b hb rfl
    obtain ⟨r1, c1, p1, s1⟩ := mem_keys_sentOn.mp ha
    obtain ⟨r2, c2, p2, s2⟩ := mem_keys_sentOn.mp hb
    obtain ⟨rfl, rfl⟩ := Prod.mk.inj (mem_unique _ hn a _ _ p1 p2)
    rw [s1] at s2; cases s2
  · obtain rfl := (collect_toMutate_some h).record
    exact ⟨rfl, (sentOn_keys_sublist _ _ _ _ _).nodup hn, hval _⟩

theorem named_path (s : Server) (hrates : (s.rates.map (·.1)).Nodup) (thisRun : Nat) (cl : Cli) (e : Nat)
    (ent : SEnt) (m : Nat) (rec : MsgEnt)
    (h : (collectEntity s thisRun cl e ent m).toUpdate = some rec ∨ (collectEntity s thisRun cl e ent m).toMutate = some rec)
    (k : Nat) (hk : k ∈ rec.comps.map (·.1)) (r : Rate) (comp : Comp) (hp : (k, r, comp) ∈ present s ent) :
    compPath s (aget cl.mutTick e) (fresh s cl e m) r comp ≠ Path.nothing := by
  intro hnot
  have hin : ∀ p, p ≠ Path.nothing → k ∉ (sentOn s (aget cl.mutTick e) (fresh s cl e m) p ent).map (·.1) := by
    intro p hne hmem
    obtain ⟨r', c', hp', hc⟩ := mem_keys_sentOn.mp hmem
    obtain ⟨rfl, rfl⟩ := Prod.mk.inj (mem_unique _ (present_keys_nodup s ent hrates) k _ _ hp' hp)
    exact hne (hc.symm.trans hnot)
  rcases h with h | h
  · obtain rfl := (collect_toUpdate_some h).record
    rw [List.map_append, List.mem_append] at hk
    exact hk.elim (hin .insertion (by intro h; cases h)) (hin .mutation (by intro h; cases h))
  · obtain rfl := (collect_toMutate_some h).record
    exact hin .mutation (by intro h; cases h) hk

theorem run_records_nodup (s : Server) (hrates : (s.rates.map (·.1)).Nodup) (thisRun : Nat) (cl : Cli) :
    (∀ m ∈ (runUpdate s thisRun cl).changes, (m.comps.map (·.1)).Nodup) ∧
    ∀ m ∈ (runClient s thisRun cl).2.mutEnts, (m.comps.map (·.1)).Nodup := by
  rw [runClient_mutEnts]
  constructor <;> intro m hm
  · obtain ⟨e, ent, mk, _, _, hto⟩ := (mem_records s _ _ EntOut.toUpdate m).mp hm
    exact (collect_record_values s hrates _ _ e ent mk m (Or.inl hto)).nodup
  · obtain ⟨e, ent, mk, _, _, hto⟩ := (mem_records s _ _ EntOut.toMutate m).mp hm
    exact (collect_record_values s hrates _ _ e ent mk m (Or.inr hto)).nodup

theorem update_of_record (p : Server) (cl : Cli) (e : Nat) (ent : SEnt) (mk : Nat)
    (hw : (e, ent) ∈ p.world) (hmk : ent.marker = some mk) (r : MsgEnt)
    (hto : (collectEntity p (p.now + 1) (runCl1 p cl) e ent mk).toUpdate = some r) :
    ∃ u, (runClient p (p.now + 1) cl).2.update = some u ∧ r ∈ u.changes := by
  have hmem := (mem_records p (p.now + 1) (runCl1 p cl) EntOut.toUpdate r).mpr ⟨e, ent, mk, hw, hmk, hto⟩
  cases hu : (runClient p (p.now + 1) cl).2.update with
  | none =>
    have hin : r ∈ (runUpdate p (p.now + 1) cl).changes := hmem
    rw [Update.changes_of_isEmpty (runClient_update_none hu)] at hin
    cases hin
  | some u => exact ⟨u, rfl, by rw [runClient_update_some hu]; exact hmem⟩

theorem tracked_after_run (p : Server) (hn : (p.world.map (·.1)).Nodup) (thisRun : Nat) (cl : Cli)
    (hcs : CliSync p.white p.world p.despawnBuf cl) (e : Nat)
    (he : e ∈ keys (runClient p thisRun cl).1) (ent : SEnt) (hw : (e, ent) ∈ p.world) :
    ∃ mk, ent.marker = some mk ∧ visState p (runCl1 p cl) e ≠ Vis.State.hidden := by
  rcases (runClient_keys p thisRun cl e).mp he with hk | hb
  · have kept := kept_of_sync p cl hcs e hk
    obtain ⟨ent', hw', hmk'⟩ := kept.replicated
    obtain rfl := mem_unique _ hn e ent ent' hw hw'
    obtain ⟨mk, hmk⟩ := Option.isSome_iff_exists.mp hmk'
    exact ⟨mk, hmk, fun h => nomatch kept.visible.symm.trans h⟩
  · obtain ⟨ent', mk, hw', hmk, hb3⟩ := (mem_runBumped p _ cl e).mp hb
    obtain rfl := mem_unique _ hn e ent ent' hw hw'
    exact ⟨mk, hmk, collect_bump_visible p _ _ e ent mk hb3⟩

/-- The messages `u`, `ms` say nothing about the component: the server believes the client has the entity
at some tick `t`, and the component is not due — it did not change after `t`, or its rate does not fire
in this tick (then it may well have changed: finding F4). -/
structure SaysNothing (p : Server) (cl : Cli) (e k : Nat) (r : Rate) (comp : Comp) (u : Update) (ms : List MsgEnt) : Prop where
  tracked : e ∈ keys cl
  notDue : ∃ t, aget cl.mutTick e = some t ∧ ¬ (comp.changed > t ∧ r.sendMutations p.tick = true)
  old : ¬ comp.added > p.lastRun
  notDespawned : e ∉ u.despawns
  notRemoved : ∀ rm ∈ u.removals, ¬ (e = rm.1 ∧ k ∈ rm.2)
  notChanged : ∀ m ∈ u.changes, ¬ (e = m.ent ∧ k ∈ m.comps.map (·.1))
  notMutated : ∀ m ∈ ms, ¬ (e = m.ent ∧ k ∈ m.comps.map (·.1))

/-- the entity's one CHANGES record carries the component, and no mutate record is for the entity -/
structure SaysInChanges (e k : Nat) (comp : Comp) (u : Update) (ms : List MsgEnt) (rec : MsgEnt) : Prop where
  mem : rec ∈ u.changes
  entity : rec.ent = e
  only : ∀ m ∈ u.changes, m.ent = e → m = rec
  value : (k, comp.val) ∈ rec.comps
  notMutated : ∀ m ∈ ms, m.ent ≠ e

/-- the entity's one mutate record carries the component, and the update message does not name the entity -/
structure SaysInMutate (cl : Cli) (e k : Nat) (comp : Comp) (u : Update) (ms : List MsgEnt) (rec : MsgEnt) : Prop where
  mem : rec ∈ ms
  entity : rec.ent = e
  only : ∀ m ∈ ms, m.ent = e → m = rec
  value : (k, comp.val) ∈ rec.comps
  tracked : e ∈ keys cl
  notDespawned : e ∉ u.despawns
  notRemoved : ∀ rm ∈ u.removals, e ≠ rm.1
  notChanged : ∀ m ∈ u.changes, e ≠ m.ent

/-- **What a run says about one component** of an entity the server tracks for the client afterwards. -/
theorem run_says (p : Server) (hn : (p.world.map (·.1)).Nodup) (hrates : (p.rates.map (·.1)).Nodup) (kinv : KindInv p)
    (thisRun : Nat) (cl : Cli) (hcs : CliSync p.white p.world p.despawnBuf cl) (e : Nat)
    (he : e ∈ keys (runClient p thisRun cl).1) (ent : SEnt) (hw : (e, ent) ∈ p.world)
    (k : Nat) (r : Rate) (comp : Comp) (hp : (k, r, comp) ∈ present p ent) :
    SaysNothing p cl e k r comp (runUpdate p thisRun cl) (runClient p thisRun cl).2.mutEnts ∨
    (∃ rec, SaysInChanges e k comp (runUpdate p thisRun cl) (runClient p thisRun cl).2.mutEnts rec) ∨
    ∃ rec, SaysInMutate cl e k comp (runUpdate p thisRun cl) (runClient p thisRun cl).2.mutEnts rec := by
  obtain ⟨mk, hmk, hvis⟩ := tracked_after_run p hn thisRun cl hcs e he ent hw
  rw [runClient_mutEnts]
  -- the records for `e`, in either list, are the decision for `e`
  have hcorig : ∀ m ∈ (runUpdate p thisRun cl).changes, m.ent = e →
      (collectEntity p thisRun (runCl1 p cl) e ent mk).toUpdate = some m := fun m hm =>
    record_of_entity p hn _ _ EntOut.toUpdate (toUpdate_ent p _ _) e ent mk hw hmk m hm
  have hmorig : ∀ m ∈ (entityOuts p thisRun (runCl1 p cl)).filterMap (fun x => x.2.toMutate), m.ent = e →
      (collectEntity p thisRun (runCl1 p cl) e ent mk).toMutate = some m := fun m hm =>
    record_of_entity p hn _ _ EntOut.toMutate (toMutate_ent p _ _) e ent mk hw hmk m hm
  by_cases hpath : compPath p (aget (runCl1 p cl).mutTick e) (fresh p (runCl1 p cl) e mk) r comp = Path.nothing
  · obtain ⟨t, hno⟩ := compPath_nothing p _ _ r comp hpath
    have kept := kept_of_sync p cl hcs e (mem_keys_of_aget _ e t hno.known)
    refine Or.inl ⟨kept.tracked, ⟨t, runCl1_mutTick_sub p cl e t hno.known, hno.notChanged⟩, hno.notAdded, kept.notDespawned, ?_, ?_, ?_⟩
    · rintro rm hrm ⟨her, hkr⟩
      exact removal_not_present p kinv e ent hw rm.2 (her ▸ (List.mem_filter.mp hrm).1) k r comp hp hno.notAdded hkr
    · rintro m hm ⟨hem, hkm⟩
      exact named_path p hrates _ _ e ent mk m (Or.inl (hcorig m hm hem.symm)) k hkm r comp hp hpath
    · rintro m hm ⟨hem, hkm⟩
      exact named_path p hrates _ _ e ent mk m (Or.inr (hmorig m hm hem.symm)) k hkm r comp hp hpath
  · right
    rcases collect_named_val p thisRun (runCl1 p cl) e ent mk hvis k r comp hp hpath with ⟨rec, hto, hk⟩ | ⟨rec, hto, hk⟩
    · -- a decision with a CHANGES record has no mutate record
      refine Or.inl ⟨rec, (mem_records p _ _ EntOut.toUpdate rec).mpr ⟨e, ent, mk, hw, hmk, hto⟩,
        toUpdate_ent p _ _ e ent mk rec hto, record_unique p hn _ _ EntOut.toUpdate (toUpdate_ent p _ _) e ent mk hw hmk rec hto, hk,
        fun m hm hem => ?_⟩
      have h1 := hmorig m hm hem
      rw [(collect_toUpdate_some hto).out] at h1
      cases h1
    · -- a decision with a mutate record: the entity is known, has no CHANGES record and no buffered removal
      have hmut := collect_toMutate_some hto
      have hk1 : e ∈ keys (runCl1 p cl) := by
        cases hkn : aget (runCl1 p cl).mutTick e with
        | none => have hnew := hmut.known; rw [hkn] at hnew; simp at hnew
        | some t => exact mem_keys_of_aget _ e t hkn
      have kept := kept_of_sync p cl hcs e hk1
      refine Or.inr ⟨rec, (mem_records p _ _ EntOut.toMutate rec).mpr ⟨e, ent, mk, hw, hmk, hto⟩, toMutate_ent p _ _ e ent mk rec hto,
        record_unique p hn _ _ EntOut.toMutate (toMutate_ent p _ _) e ent mk hw hmk rec hto, hk, kept.tracked, kept.notDespawned,
        fun rm hrm her => ?_, fun m hm hem => ?_⟩
      · have : (aget p.removalBuf e).isSome = true :=
          (aget_isSome_iff p.removalBuf e).mpr (her ▸ List.mem_map_of_mem (f := (·.1)) (List.mem_filter.mp hrm).1)
        rw [hmut.noRemoval] at this; cases this
      · have h1 := hcorig m hm hem.symm
        rw [hmut.out] at h1; cases h1

end Replicon.Srv
