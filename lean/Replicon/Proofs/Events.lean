import Replicon.Model.Events
/-
Remote events (`Model/Events.lean`), one side at a time: one flush of the server's buffer, the
client's queue of events that arrived before their tick, and the buffer of events towards the
server, where an invariant of the buffer (`CBuf.Inv`) and one of everything a history hands out
(`CBuf.Outs`) give "at most once on either path, in emission order" over all histories.
-/
namespace Replicon.Evt

theorem mem_sendEvent {peers : List Peer} {excl : List Nat} {e : Ev} {o : Out} :
    o ∈ sendEvent peers excl e ↔
      ∃ p ∈ peers, p.id ∉ excl ∧ selects e.mode p.id = true ∧ p.authorized = true ∧
        o = { client := p.id, chan := e.chan, stamp := some p.updateTick, id := e.id } := by
  unfold sendEvent
  simp only [List.mem_map, List.mem_filter, Bool.and_eq_true, Bool.not_eq_true', List.contains_eq_mem,
    decide_eq_false_iff_not]
  constructor
  · rintro ⟨p, ⟨hp, ⟨hex, hsel⟩, hauth⟩, rfl⟩
    exact ⟨p, hp, hex, hsel, hauth, rfl⟩
  · rintro ⟨p, hp, hex, hsel, hauth, rfl⟩
    exact ⟨p, ⟨hp, ⟨hex, hsel⟩, hauth⟩, rfl⟩

theorem mem_sendIndependent {peers : List Peer} {e : Ev} {o : Out} :
    o ∈ sendIndependent peers e ↔
      ∃ p ∈ peers, selects e.mode p.id = true ∧
        o = { client := p.id, chan := e.chan, stamp := none, id := e.id } := by
  unfold sendIndependent
  simp only [List.mem_map, List.mem_filter]
  constructor
  · rintro ⟨p, ⟨hp, hsel⟩, rfl⟩
    exact ⟨p, hp, hsel, rfl⟩
  · rintro ⟨p, hp, hsel, rfl⟩
    exact ⟨p, ⟨hp, hsel⟩, rfl⟩

theorem sendEvent_nodup (peers : List Peer) (excl : List Nat) (e : Ev)
    (h : (peers.map (·.id)).Nodup) : ((sendEvent peers excl e).map (·.client)).Nodup := by
  unfold sendEvent
  rw [List.map_map]
  exact (List.filter_sublist.map _).nodup h

theorem mem_sendAll {s : SrvEv} {peers : List Peer} {o : Out} :
    o ∈ s.sendAll peers ↔ ∃ b ∈ s.buffer, ∃ e ∈ b.events, o ∈ sendEvent peers b.excluded e := by
  unfold SrvEv.sendAll sendSet
  simp only [List.mem_flatMap]

theorem mem_sendAll_peer {s : SrvEv} {peers : List Peer} {o : Out} (h : o ∈ s.sendAll peers) :
    ∃ q ∈ peers, o.client = q.id ∧ q.authorized = true ∧ o.stamp = some q.updateTick := by
  obtain ⟨b, _, e, _, hoe⟩ := mem_sendAll.mp h
  obtain ⟨q, hq, _, _, ha, rfl⟩ := mem_sendEvent.mp hoe
  exact ⟨q, hq, rfl, ha, rfl⟩

theorem mem_sendAll_exclude {s : SrvEv} {c : Nat} {peers : List Peer} {o : Out} :
    o ∈ (s.exclude c).sendAll peers ↔ o ∈ s.sendAll peers ∧ o.client ≠ c := by
  simp only [mem_sendAll, SrvEv.exclude, List.mem_map, mem_sendEvent]
  constructor
  · rintro ⟨_, ⟨b, hb, rfl⟩, e, he, p, hp, hex, hsel, ha, rfl⟩
    rw [List.mem_cons, not_or] at hex
    exact ⟨⟨b, hb, e, he, p, hp, hex.2, hsel, ha, rfl⟩, hex.1⟩
  · rintro ⟨⟨b, hb, e, he, p, hp, hex, hsel, ha, rfl⟩, hc⟩
    exact ⟨_, ⟨b, hb, rfl⟩, e, he, p, hp, by rw [List.mem_cons, not_or]; exact ⟨hc, hex⟩, hsel, ha, rfl⟩

theorem sendAll_bufferEvents (s : SrvEv) (es : List Ev) (peers : List Peer) :
    (s.bufferEvents es).sendAll peers = s.sendAll peers ++ sendSet peers { events := es } := by
  unfold SrvEv.bufferEvents SrvEv.sendAll
  rw [List.flatMap_append, List.flatMap_singleton]

theorem flatMap_sublist_filter {α β : Type} (p : α → Bool) (f g : α → List β) (l : List α)
    (h : ∀ x ∈ l, List.Sublist (f x) (if p x then g x else [])) :
    List.Sublist (l.flatMap f) ((l.filter p).flatMap g) := by
  induction l with
  | nil => exact List.Sublist.refl _
  | cons x xs ih =>
    have hx := h x List.mem_cons_self
    have hxs := ih fun y hy => h y (List.mem_cons_of_mem _ hy)
    rw [List.flatMap_cons, List.filter_cons]
    split
    · next hp =>
      rw [if_pos hp] at hx
      rw [List.flatMap_cons]
      exact hx.append hxs
    · next hp =>
      rw [if_neg hp] at hx
      rw [List.eq_nil_of_sublist_nil hx]
      exact hxs

theorem flatMap_sublist {α β : Type} (f g : α → List β) (l : List α)
    (h : ∀ x ∈ l, List.Sublist (f x) (g x)) : List.Sublist (l.flatMap f) (l.flatMap g) := by
  have := flatMap_sublist_filter (fun _ => true) f g l h
  rwa [List.filter_eq_self.mpr fun _ _ => rfl] at this

theorem map_sublist_singleton {α β : Type} (f : α → Nat) (g : α → β) {c : Nat} {b : β} : ∀ {l : List α},
    (l.map f).Nodup → (∀ x ∈ l, f x = c) → (∀ x ∈ l, g x = b) → List.Sublist (l.map g) [b]
  | [], _, _, _ => List.nil_sublist _
  | [x], _, _, hb => by
    rw [List.map_singleton, hb x List.mem_cons_self]
    exact List.Sublist.refl _
  | x :: y :: _, hn, hc, _ => by
    have e : f x = f y :=
      (hc x List.mem_cons_self).trans (hc y (List.mem_cons_of_mem _ List.mem_cons_self)).symm
    exact absurd (e ▸ List.mem_cons_self) (List.nodup_cons.mp hn).1

theorem sendEvent_ids_sublist (peers : List Peer) (excl : List Nat) (e : Ev) (c : Nat) (q : Out → Bool)
    (hq : ∀ o, q o = true → o.client = c) (h : (peers.map (·.id)).Nodup) :
    List.Sublist (((sendEvent peers excl e).filter q).map (·.id)) [e.id] := by
  refine map_sublist_singleton (·.client) (·.id) ((List.filter_sublist.map _).nodup (sendEvent_nodup peers excl e h))
    (fun o ho => hq o (List.mem_filter.mp ho).2) fun o ho => ?_
  obtain ⟨p, _, _, _, _, rfl⟩ := mem_sendEvent.mp (List.mem_filter.mp ho).1
  rfl

/-- the dependent events among the emissions, as `send_or_buffer` buffers them -/
def depEvs (l : List Emitted) : List Ev := (l.filter fun e => !e.independent).map (·.ev)

/-- `send_independent_event` for every independent event among the emissions -/
def indepOuts (peers : List Peer) (l : List Emitted) : List Out :=
  (l.filter (·.independent)).flatMap fun e => sendIndependent peers e.ev

end Replicon.Evt

namespace Replicon.Joint
open Replicon.Evt

/-- the payloads among `l` whose recipients include the local server, as `resend_locally` re-emits
them -/
def localIds (l : List Emitted) : List Nat := (l.filter fun e => localDelivery e.ev.mode).map (·.ev.id)

end Replicon.Joint

namespace Replicon.Evt

theorem SrvEv.frame_stopped (s : SrvEv) (ticked lok : Bool) (em : List Emitted) (peers : List Peer) :
    s.frame false ticked lok em peers =
      (s, [], if lok then Joint.localIds em else []) := rfl

theorem SrvEv.frame_buffer (s : SrvEv) (lok : Bool) (em : List Emitted) (peers : List Peer) :
    s.frame true false lok em peers =
      (s.bufferEvents (depEvs em), indepOuts peers em,
       if lok then Joint.localIds em else []) := rfl

theorem SrvEv.frame_flush (s : SrvEv) (lok : Bool) (em : List Emitted) (peers : List Peer) :
    s.frame true true lok em peers =
      ({}, indepOuts peers em ++ (s.bufferEvents (depEvs em)).sendAll peers,
       if lok then Joint.localIds em else []) := rfl

theorem indepOuts_unstamped (peers : List Peer) (l : List Emitted) : ∀ o ∈ indepOuts peers l, o.stamp = none := by
  intro o ho
  obtain ⟨e, _, he⟩ := List.mem_flatMap.mp ho
  obtain ⟨p, _, _, rfl⟩ := mem_sendIndependent.mp he
  rfl

theorem sendAll_empty (peers : List Peer) : ({} : SrvEv).sendAll peers = [] := rfl

theorem insertGo_perm (stamp payload : Nat) (xs : List (Nat × Nat)) :
    (Queue.insert.go stamp payload xs).Perm ((stamp, payload) :: xs) := by
  induction xs with
  | nil => exact List.Perm.refl _
  | cons x xs ih =>
    unfold Queue.insert.go
    split
    · exact List.Perm.refl _
    · exact ((List.Perm.cons x ih).trans (List.Perm.swap _ _ _))

theorem insertGo_append (stamp payload : Nat) (xs : List (Nat × Nat)) (h : ∀ x ∈ xs, x.1 ≤ stamp) :
    Queue.insert.go stamp payload xs = xs ++ [(stamp, payload)] := by
  induction xs with
  | nil => rfl
  | cons x xs ih =>
    unfold Queue.insert.go
    have hx := h x List.mem_cons_self
    rw [if_neg (by omega), ih fun y hy => h y (List.mem_cons_of_mem _ hy)]
    rfl

theorem insertGo_sorted (stamp payload : Nat) (xs : List (Nat × Nat))
    (h : xs.Pairwise fun x y => x.1 ≤ y.1) :
    (Queue.insert.go stamp payload xs).Pairwise fun x y => x.1 ≤ y.1 := by
  induction xs with
  | nil => simp [Queue.insert.go]
  | cons x xs ih =>
    rw [List.pairwise_cons] at h
    unfold Queue.insert.go
    split
    · rename_i hlt
      rw [List.pairwise_cons]
      refine ⟨?_, List.pairwise_cons.mpr h⟩
      intro y hy
      rcases List.mem_cons.mp hy with rfl | hy
      · exact Nat.le_of_lt hlt
      · exact Nat.le_trans (Nat.le_of_lt hlt) (h.1 y hy)
    · rename_i hge
      rw [List.pairwise_cons]
      refine ⟨?_, ih h.2⟩
      intro y hy
      rcases List.mem_cons.mp ((insertGo_perm stamp payload xs).subset hy) with rfl | hy
      · exact Nat.le_of_not_lt hge
      · exact h.1 y hy

theorem foldl_insert_perm (later : List (Nat × Nat)) (q : Queue) :
    (later.foldl (fun q x => q.insert x.1 x.2) q).items.Perm (q.items ++ later) := by
  induction later generalizing q with
  | nil => simp
  | cons x xs ih =>
    rw [List.foldl_cons]
    refine (ih _).trans ?_
    unfold Queue.insert
    refine ((insertGo_perm x.1 x.2 q.items).append_right xs).trans ?_
    simpa using (List.perm_middle (l₁ := q.items) (l₂ := xs) (a := x)).symm

theorem foldl_insert_sorted (later : List (Nat × Nat)) (q : Queue)
    (h : q.items.Pairwise fun x y => x.1 ≤ y.1) :
    (later.foldl (fun q x => q.insert x.1 x.2) q).items.Pairwise fun x y => x.1 ≤ y.1 := by
  induction later generalizing q with
  | nil => exact h
  | cons x xs ih =>
    rw [List.foldl_cons]
    exact ih _ (insertGo_sorted _ _ _ h)

theorem foldl_insert_append (later : List (Nat × Nat)) (q : Queue)
    (h : (q.items ++ later).Pairwise fun x y => x.1 ≤ y.1) :
    (later.foldl (fun q x => q.insert x.1 x.2) q).items = q.items ++ later := by
  induction later generalizing q with
  | nil => simp
  | cons x xs ih =>
    rw [List.foldl_cons]
    have hx : ∀ y ∈ q.items, y.1 ≤ x.1 := by
      intro y hy
      rw [List.pairwise_append] at h
      exact h.2.2 y hy x List.mem_cons_self
    have heq : (q.insert x.1 x.2).items = q.items ++ [x] := by
      unfold Queue.insert
      exact insertGo_append _ _ _ hx
    rw [ih _ (by rw [heq]; simpa using h), heq]
    simp

theorem filter_split_of_sorted (u : Nat) (l : List (Nat × Nat)) (h : l.Pairwise fun x y => x.1 ≤ y.1) :
    (l.filter fun x => decide (x.1 ≤ u)) ++ (l.filter fun x => !decide (x.1 ≤ u)) = l := by
  induction l with
  | nil => rfl
  | cons x xs ih =>
    obtain ⟨hx, hs⟩ := List.pairwise_cons.mp h
    rw [List.filter_cons, List.filter_cons]
    by_cases hu : x.1 ≤ u
    · simp only [decide_eq_true hu, Bool.not_true, Bool.false_eq_true, if_true, if_false, List.cons_append]
      rw [ih hs]
    · -- everything after `x` is later still
      have hxs : ∀ y ∈ xs, decide (y.1 ≤ u) = false := fun y hy =>
        decide_eq_false fun hyu => hu (Nat.le_trans (hx y hy) hyu)
      simp only [decide_eq_false hu, Bool.not_false, Bool.false_eq_true, if_true, if_false]
      rw [List.filter_eq_nil_iff.mpr fun y hy => by rw [hxs y hy]; exact Bool.false_ne_true,
        List.filter_eq_self.mpr fun y hy => by rw [hxs y hy]; rfl]
      rfl

theorem resolveRefs_cons (map : List (Nat × Nat)) (r : Nat) (rs : List Nat) :
    resolveRefs map (r :: rs) = (map.lookup r).bind fun v => (resolveRefs map rs).map (v :: ·) := by
  unfold resolveRefs
  rw [List.mapM_cons]
  cases map.lookup r with
  | none => rfl
  | some v => cases List.mapM (fun r => map.lookup r) rs <;> rfl

structure CBuf.Inv (q : CBuf) : Prop where
  lt : ∀ x ∈ q.items, x.1 < q.next
  sorted : q.items.Pairwise fun x y => x.1 < y.1
  cur : q.cursor ≤ q.next

theorem CBuf.inv_init : ({} : CBuf).Inv := ⟨nofun, List.Pairwise.nil, Nat.le_refl _⟩

theorem CBuf.items_emit (q : CBuf) (id : Nat) : (q.emit id).items = q.items ++ [(q.next, id)] :=
  (List.append_assoc ..).symm

theorem CBuf.emit_inv (q : CBuf) (id : Nat) (h : q.Inv) : (q.emit id).Inv := by
  refine ⟨fun x hx => ?_, ?_, Nat.le_succ_of_le h.cur⟩
  · rw [CBuf.items_emit] at hx
    rcases List.mem_append.mp hx with hx | hx
    · exact Nat.lt_succ_of_lt (h.lt x hx)
    · cases List.mem_singleton.mp hx
      exact Nat.lt_succ_self _
  · rw [CBuf.items_emit]
    exact List.pairwise_append.mpr ⟨h.sorted, List.pairwise_singleton _ _,
      fun x hx y hy => List.mem_singleton.mp hy ▸ h.lt x hx⟩

theorem CBuf.age_items_sub (q : CBuf) : List.Sublist q.age.items q.items := by
  show List.Sublist (q.b ++ []) (q.a ++ q.b)
  rw [List.append_nil]
  exact List.sublist_append_right q.a q.b

theorem CBuf.drain_inv (q : CBuf) (h : q.Inv) : q.drain.Inv := ⟨nofun, List.Pairwise.nil, h.cur⟩

/-- the buffer after ageing and the connect-reset of a frame -/
def CBuf.pre (q : CBuf) (aged jc : Bool) : CBuf :=
  let q := if aged then q.age else q
  if jc then q.drain else q

theorem CBuf.pre_next (q : CBuf) (aged jc : Bool) : (q.pre aged jc).next = q.next := by
  cases aged <;> cases jc <;> rfl

theorem CBuf.pre_cursor (q : CBuf) (aged jc : Bool) : (q.pre aged jc).cursor = q.cursor := by
  cases aged <;> cases jc <;> rfl

theorem CBuf.pre_items (q : CBuf) (aged jc : Bool) : List.Sublist (q.pre aged jc).items q.items := by
  cases jc
  · cases aged
    · exact List.Sublist.refl _
    · exact q.age_items_sub
  · exact List.nil_sublist _

theorem CBuf.pre_inv (q : CBuf) (aged jc : Bool) (h : q.Inv) : (q.pre aged jc).Inv := by
  refine ⟨fun x hx => ?_, h.sorted.sublist (q.pre_items aged jc), ?_⟩
  · rw [q.pre_next]
    exact h.lt x ((q.pre_items aged jc).subset hx)
  · rw [q.pre_next, q.pre_cursor]
    exact h.cur

theorem CBuf.frame_eq (q : CBuf) (aged jc : Bool) (st : Status) :
    q.frame aged jc st =
      match st with
      | .connected => ({ q.pre aged jc with cursor := (q.pre aged jc).next },
          (q.pre aged jc).items.filter fun x => (q.pre aged jc).cursor ≤ x.1, [])
      | .disconnected => ((q.pre aged jc).drain, [], (q.pre aged jc).items)
      | .connecting => (q.pre aged jc, [], []) := by
  unfold CBuf.frame CBuf.pre
  cases aged <;> cases jc <;> cases st <;> rfl

theorem CBuf.frame_inv (q : CBuf) (aged jc : Bool) (st : Status) (h : q.Inv) : (q.frame aged jc st).1.Inv := by
  rw [CBuf.frame_eq]
  have hp := q.pre_inv aged jc h
  cases st
  · exact (q.pre aged jc).drain_inv hp
  · exact hp
  · exact ⟨fun x hx => hp.lt x hx, hp.sorted, Nat.le_refl _⟩

theorem CBuf.frame_exclusive (q : CBuf) (aged jc : Bool) (st : Status) :
    (q.frame aged jc st).2.1 = [] ∨ (q.frame aged jc st).2.2 = [] := by
  rw [CBuf.frame_eq]
  cases st
  · exact .inl rfl
  · exact .inl rfl
  · exact .inr rfl

theorem CBuf.frame_next (q : CBuf) (aged jc : Bool) (st : Status) :
    (q.frame aged jc st).1.next = q.next := by
  rw [CBuf.frame_eq]
  cases st <;> exact q.pre_next aged jc

theorem CBuf.frame_cursor_le (q : CBuf) (aged jc : Bool) (st : Status) (h : q.Inv) :
    q.cursor ≤ (q.frame aged jc st).1.cursor := by
  rw [CBuf.frame_eq]
  cases st
  · exact Nat.le_of_eq (q.pre_cursor aged jc).symm
  · exact Nat.le_of_eq (q.pre_cursor aged jc).symm
  · exact (q.pre_next aged jc).symm ▸ h.cur

/-- `r`, the result of a frame from `q`: what it puts on the wire, re-emits locally and keeps was
buffered before -/
structure CBuf.FrameSub (q : CBuf) (r : CBuf × List (Nat × Nat) × List (Nat × Nat)) : Prop where
  wire : List.Sublist r.2.1 q.items
  locals : List.Sublist r.2.2 q.items
  items : List.Sublist r.1.items q.items

theorem CBuf.frame_sub (q : CBuf) (aged jc : Bool) (st : Status) : q.FrameSub (q.frame aged jc st) := by
  rw [CBuf.frame_eq]
  have hp := q.pre_items aged jc
  cases st
  · exact ⟨List.nil_sublist _, hp, List.nil_sublist _⟩
  · exact ⟨List.nil_sublist _, List.nil_sublist _, hp⟩
  · exact ⟨List.filter_sublist.trans hp, List.nil_sublist _, hp⟩

theorem CBuf.frame_wire (q : CBuf) (aged jc : Bool) (st : Status) (h : q.Inv) :
    ∀ x ∈ (q.frame aged jc st).2.1, q.cursor ≤ x.1 ∧ x.1 < (q.frame aged jc st).1.cursor := by
  rw [CBuf.frame_eq]
  cases st
  · intro x hx; cases hx
  · intro x hx; cases hx
  · intro x hx
    obtain ⟨hm, hc⟩ := List.mem_filter.mp hx
    rw [q.pre_cursor aged jc] at hc
    exact ⟨of_decide_eq_true hc, (q.pre_inv aged jc h).lt x hm⟩

theorem CBuf.frame_local_drains (q : CBuf) (aged jc : Bool) (st : Status) (x : Nat × Nat)
    (hx : x ∈ (q.frame aged jc st).2.2) : (q.frame aged jc st).1.items = [] := by
  rw [CBuf.frame_eq] at hx ⊢
  cases st
  · rfl
  · cases hx
  · cases hx

/-- a frame that re-emits locally drains: whatever comes out later was not emitted yet -/
theorem CBuf.frame_local_lt (q : CBuf) (aged jc : Bool) (st : Status) (hq : q.Inv) {x y : Nat × Nat}
    (hx : x ∈ (q.frame aged jc st).2.2)
    (hy : y ∈ (q.frame aged jc st).1.items ∨ (q.frame aged jc st).1.next ≤ y.1) : x.1 < y.1 := by
  rcases hy with h1 | h1
  · rw [q.frame_local_drains aged jc st x hx] at h1
    cases h1
  · rw [q.frame_next] at h1
    exact Nat.lt_of_lt_of_le (hq.lt x ((q.frame_sub aged jc st).locals.subset hx)) h1

/-- `r`: what a history from `q` on puts on the wire (`r.1`) and re-emits locally (`r.2`) -/
structure CBuf.Outs (q : CBuf) (r : List (Nat × Nat) × List (Nat × Nat)) : Prop where
  wire_from : ∀ x ∈ r.1, x ∈ q.items ∨ q.next ≤ x.1
  local_from : ∀ x ∈ r.2, x ∈ q.items ∨ q.next ≤ x.1
  wire_ge : ∀ x ∈ r.1, q.cursor ≤ x.1
  wire_sorted : r.1.Pairwise fun x y => x.1 < y.1
  local_sorted : r.2.Pairwise fun x y => x.1 < y.1

/-- `q.run (s :: rest)` is computed from the run of `rest` from the state `s` leaves, so `Outs` is
carried backwards over a step: from that state to `q` -/
theorem CBuf.Outs.emit {q : CBuf} {id : Nat} {r : List (Nat × Nat) × List (Nat × Nat)} (h : (q.emit id).Outs r) :
    q.Outs r := by
  have from_ : ∀ x : Nat × Nat, x ∈ (q.emit id).items ∨ (q.emit id).next ≤ x.1 → x ∈ q.items ∨ q.next ≤ x.1 := by
    intro x hx
    rcases hx with hx | hx
    · simp only [CBuf.emit, CBuf.items, ← List.append_assoc, List.mem_append, List.mem_singleton] at hx
      rcases hx with hx | rfl
      · exact .inl (by simpa [CBuf.items] using hx)
      · exact .inr (Nat.le_refl _)
    · exact .inr (Nat.le_of_succ_le hx)
  exact ⟨fun x hx => from_ x (h.wire_from x hx), fun x hx => from_ x (h.local_from x hx), h.wire_ge,
    h.wire_sorted, h.local_sorted⟩

theorem CBuf.Outs.frame {q : CBuf} {aged jc : Bool} {st : Status} {t : List (Nat × Nat) × List (Nat × Nat)}
    (hq : q.Inv) (h : (q.frame aged jc st).1.Outs t) :
    q.Outs ((q.frame aged jc st).2.1 ++ t.1, (q.frame aged jc st).2.2 ++ t.2) := by
  have hsub := q.frame_sub aged jc st
  have from_ : ∀ x : Nat × Nat, x ∈ (q.frame aged jc st).1.items ∨ (q.frame aged jc st).1.next ≤ x.1 →
      x ∈ q.items ∨ q.next ≤ x.1 := by
    intro x hx
    rw [q.frame_next] at hx
    exact hx.imp_left fun hm => hsub.items.subset hm
  refine ⟨?_, ?_, ?_, ?_, ?_⟩
  · intro x hx
    rcases List.mem_append.mp hx with hx | hx
    · exact .inl (hsub.wire.subset hx)
    · exact from_ x (h.wire_from x hx)
  · intro x hx
    rcases List.mem_append.mp hx with hx | hx
    · exact .inl (hsub.locals.subset hx)
    · exact from_ x (h.local_from x hx)
  · intro x hx
    rcases List.mem_append.mp hx with hx | hx
    · exact (q.frame_wire aged jc st hq x hx).1
    · exact Nat.le_trans (q.frame_cursor_le aged jc st hq) (h.wire_ge x hx)
  · rw [List.pairwise_append]
    refine ⟨hq.sorted.sublist hsub.wire, h.wire_sorted, fun x hx y hy => ?_⟩
    exact Nat.lt_of_lt_of_le (q.frame_wire aged jc st hq x hx).2 (h.wire_ge y hy)
  · rw [List.pairwise_append]
    exact ⟨hq.sorted.sublist hsub.locals, h.local_sorted,
      fun x hx y hy => q.frame_local_lt aged jc st hq hx (h.local_from y hy)⟩

theorem CBuf.run_outs (q : CBuf) (steps : List CStep) (h : q.Inv) : q.Outs (q.run steps) := by
  induction steps generalizing q with
  | nil => exact ⟨nofun, nofun, nofun, List.Pairwise.nil, List.Pairwise.nil⟩
  | cons s rest ih =>
    cases s with
    | emit id => exact (ih _ (q.emit_inv id h)).emit
    | frame aged jc st => exact (ih _ (q.frame_inv aged jc st h)).frame h

/-- The hypothesis F13 violates: whenever a frame runs while disconnected, nothing that was
already sent to the remote server is still in Bevy's event buffer. -/
def CBuf.NoStale (q : CBuf) : List CStep → Prop
  | [] => True
  | .emit id :: rest => (q.emit id).NoStale rest
  | .frame aged jc st :: rest =>
    (st = .disconnected → ∀ x ∈ (q.pre aged jc).items, q.cursor ≤ x.1) ∧ (q.frame aged jc st).1.NoStale rest

theorem CBuf.run_local_ge (q : CBuf) (steps : List CStep) (h : q.Inv) (hs : q.NoStale steps) :
    ∀ x ∈ (q.run steps).2, q.cursor ≤ x.1 := by
  induction steps generalizing q with
  | nil => exact nofun
  | cons s rest ih =>
    cases s with
    | emit id => exact ih _ (q.emit_inv id h) hs
    | frame aged jc st =>
      intro x hx
      rcases List.mem_append.mp hx with hx | hx
      · rw [CBuf.frame_eq] at hx
        cases st
        · exact hs.1 rfl x hx
        · cases hx
        · cases hx
      · exact Nat.le_trans (q.frame_cursor_le aged jc st h) (ih _ (q.frame_inv aged jc st h) hs.2 x hx)

theorem CBuf.run_disjoint (q : CBuf) (steps : List CStep) (h : q.Inv) (hs : q.NoStale steps) :
    ∀ x ∈ (q.run steps).1, ∀ y ∈ (q.run steps).2, x.1 ≠ y.1 := by
  induction steps generalizing q with
  | nil => exact nofun
  | cons s rest ih =>
    cases s with
    | emit id => exact ih _ (q.emit_inv id h) hs
    | frame aged jc st =>
      intro x hx y hy
      have hi := q.frame_inv aged jc st h
      rcases List.mem_append.mp hx with hx | hx <;> rcases List.mem_append.mp hy with hy | hy
      · rcases q.frame_exclusive aged jc st with e | e
        · rw [e] at hx; cases hx
        · rw [e] at hy; cases hy
      · have h1 := (q.frame_wire aged jc st h x hx).2
        have h2 := CBuf.run_local_ge _ rest hi hs.2 y hy
        omega
      · exact Nat.ne_of_gt (q.frame_local_lt aged jc st h hy ((CBuf.run_outs _ rest hi).wire_from x hx))
      · exact ih _ hi hs.2 x hx y hy

end Replicon.Evt
