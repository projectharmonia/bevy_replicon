import Replicon.Model.Client
import Replicon.Proofs.Server
/-
The client model's functions one by one, before any notion of what the client holds: which fields
applying records leaves alone, how a section with records that can fail folds (`foldOpt`), what
`targetEntity` returns, the records of mutate messages, tracking.
-/
namespace Replicon.Cli
open Replicon Replicon.Srv

/-! Every operation on the records of a message changes at most the world, the two directions of the
entity map and the id counter (`Same`); whatever is said about any other field of the client
follows from that. -/

def Same (c c' : Client) : Prop :=
  c' = { c with world := c'.world, s2c := c'.s2c, c2s := c'.c2s, next := c'.next }

theorem Same.refl (c : Client) : Same c c := rfl

theorem Same.trans {a b c : Client} (h1 : Same a b) (h2 : Same b c) : Same a c := by
  unfold Same at *
  rw [h2, h1]

theorem Same.updateTick {c c' : Client} (h : Same c c') : c'.updateTick = c.updateTick := by rw [h]
theorem Same.acks {c c' : Client} (h : Same c c') : c'.acks = c.acks := by rw [h]
theorem Same.buffered {c c' : Client} (h : Same c c') : c'.buffered = c.buffered := by rw [h]
theorem Same.entityComps {c c' : Client} (h : Same c c') : c'.entityComps = c.entityComps := by rw [h]
theorem Same.notified {c c' : Client} (h : Same c c') : c'.notified = c.notified := by rw [h]

/-- from "it does not fail, and the result has `P`" to `P` of a result in hand -/
theorem of_eq_some {α : Type} {o : Option α} {P : α → Prop} (h : ∃ a, o = some a ∧ P a) {a : α} (e : o = some a) : P a := by
  obtain ⟨a', h', hp⟩ := h
  cases h'.symm.trans e
  exact hp

theorem foldOpt_cons_some {α : Type} {f : Client → α → Option Client} {c c' : Client} {x : α} (xs : List α)
    (h : f c x = some c') : foldOpt f (c, false) (x :: xs) = foldOpt f (c', false) xs := by
  unfold foldOpt
  rw [List.foldl_cons, if_neg Bool.false_ne_true, h]

theorem foldOpt_same {α : Type} (f : Client → α → Option Client) (hf : ∀ c x c', f c x = some c' → Same c c')
    (xs : List α) (c : Client) (b : Bool) : Same c (foldOpt f (c, b) xs).1 := by
  unfold foldOpt
  refine List.foldlRecOn (motive := fun st : Client × Bool => Same c st.1) xs _ (Same.refl c) (fun st h x _ => ?_)
  split
  · exact h
  · cases hfx : f st.1 x with
    | none => exact h
    | some c' => exact h.trans (hf st.1 x c' hfx)

theorem foldOpt_inv {α : Type} (f : Client → α → Option Client) (P : Client → Prop) : ∀ (xs : List α),
    (∀ c, ∀ x ∈ xs, P c → ∃ c', f c x = some c' ∧ P c') → ∀ (c : Client), P c →
    (foldOpt f (c, false) xs).2 = false ∧ P (foldOpt f (c, false) xs).1 := by
  intro xs
  induction xs with
  | nil => exact fun _ c h => ⟨rfl, h⟩
  | cons x xs ih =>
    intro hf c h
    obtain ⟨c1, e1, h1⟩ := hf c x List.mem_cons_self h
    rw [foldOpt_cons_some xs e1]
    exact ih (fun c y hy => hf c y (List.mem_cons_of_mem _ hy)) c1 h1

/-- a section each of whose records `x` makes `Q` hold if `A x`, and otherwise leaves it as it was:
at the end `Q` holds iff it held before or some record made it hold (`W`: what the records need of the
client not to fail, and keep) -/
theorem foldOpt_or {α : Type} (f : Client → α → Option Client) (W Q : Client → Prop) (A : α → Prop)
    (hf : ∀ c x, W c → ∃ c', f c x = some c' ∧ W c' ∧ (Q c' ↔ Q c ∨ A x)) : ∀ (xs : List α) (c : Client), W c →
    (Q (foldOpt f (c, false) xs).1 ↔ Q c ∨ ∃ x ∈ xs, A x) := by
  intro xs
  induction xs with
  | nil => exact fun c _ => ⟨Or.inl, fun h => h.elim id (fun ⟨_, hx, _⟩ => nomatch hx)⟩
  | cons x xs ih =>
    intro c w
    obtain ⟨c1, e1, w1, q1⟩ := hf c x w
    rw [foldOpt_cons_some xs e1, ih c1 w1, q1, or_assoc]
    refine or_congr_right ⟨fun h => ?_, fun ⟨y, hy, ha⟩ => ?_⟩
    · exact h.elim (fun ha => ⟨x, List.mem_cons_self, ha⟩) (fun ⟨y, hy, ha⟩ => ⟨y, List.mem_cons_of_mem _ hy, ha⟩)
    · exact (List.mem_cons.mp hy).elim (fun e => Or.inl (e ▸ ha)) (fun hy => Or.inr ⟨y, hy, ha⟩)

/-- … and one each of whose records `x` makes `Q` fail unless `B x`: at the end `Q` holds iff it held
before and no record made it fail -/
theorem foldOpt_and {α : Type} (f : Client → α → Option Client) (W Q : Client → Prop) (B : α → Prop)
    (hf : ∀ c x, W c → ∃ c', f c x = some c' ∧ W c' ∧ (Q c' ↔ Q c ∧ B x)) : ∀ (xs : List α) (c : Client), W c →
    (Q (foldOpt f (c, false) xs).1 ↔ Q c ∧ ∀ x ∈ xs, B x) := by
  intro xs
  induction xs with
  | nil => exact fun c _ => ⟨fun h => ⟨h, fun _ hx => nomatch hx⟩, And.left⟩
  | cons x xs ih =>
    intro c w
    obtain ⟨c1, e1, w1, q1⟩ := hf c x w
    rw [foldOpt_cons_some xs e1, ih c1 w1, q1, List.forall_mem_cons, and_assoc]

theorem foldl_same {α : Type} (f : Client → α → Client) (hf : ∀ c x, Same c (f c x)) (xs : List α) (c : Client) :
    Same c (xs.foldl f c) :=
  List.foldlRecOn (motive := fun c' => Same c c') xs f (Same.refl c) (fun c1 h x _ => h.trans (hf c1 x))

theorem getMapped_same (c : Client) (se : Nat) : Same c (getMapped c se).1 := by
  unfold getMapped
  cases aget c.s2c se <;> rfl

theorem confirm_same (c : Client) (ce t : Nat) : Same c (confirm c ce t) := by
  unfold confirm
  cases aget c.world ce <;> rfl

theorem writeComps_same (ce : Nat) (comps : List (Nat × Nat)) (c : Client) : Same c (writeComps c ce comps) := by
  unfold writeComps
  apply foldl_same
  intro c x
  obtain ⟨k, v⟩ := x
  simp only
  by_cases hk : c.entityComps.contains k = true
  · simp only [hk, if_true]
    refine (getMapped_same c v).trans ?_
    cases aget (getMapped c v).1.world ce <;> rfl
  · simp only [hk, Bool.false_eq_true, if_false]
    cases aget c.world ce <;> rfl

/-! `targetEntity` by case: the server entity is not mapped; mapped to a client entity that is gone;
mapped to a live one. -/

theorem targetEntity_unmapped (c : Client) (se : Nat) (b : Bool) (hs : aget c.s2c se = none) :
    targetEntity c se b = .ok (mapInsert (spawnFresh c { marked := true }).1 se c.next, c.next) := by
  unfold targetEntity
  rw [hs]
  rfl

theorem targetEntity_gone (c : Client) (se ce : Nat) (b : Bool) (hs : aget c.s2c se = some ce)
    (hw : aget c.world ce = none) : targetEntity c se b = .err := by
  unfold targetEntity
  rw [hs]
  simp only
  rw [hw]

theorem targetEntity_live (c : Client) (se ce : Nat) (b : Bool) (ent : CEnt) (hs : aget c.s2c se = some ce)
    (hw : aget c.world ce = some ent) :
    targetEntity c se b =
      .ok (if (b && !ent.marked) = true then { c with world := aset c.world ce { ent with marked := true } } else c, ce) := by
  unfold targetEntity
  rw [hs]
  simp only
  rw [hw]
  simp only
  split <;> rfl

theorem targetEntity_cases (c : Client) (se : Nat) (b : Bool) :
    (aget c.s2c se = none ∧
      targetEntity c se b = .ok (mapInsert (spawnFresh c { marked := true }).1 se c.next, c.next)) ∨
    (∃ ce, aget c.s2c se = some ce ∧ aget c.world ce = none ∧ targetEntity c se b = .err) ∨
    (∃ ce ent, aget c.s2c se = some ce ∧ aget c.world ce = some ent ∧
      targetEntity c se b =
        .ok (if (b && !ent.marked) = true then { c with world := aset c.world ce { ent with marked := true } } else c, ce)) := by
  cases hs : aget c.s2c se with
  | none => exact Or.inl ⟨rfl, targetEntity_unmapped c se b hs⟩
  | some ce =>
    cases hw : aget c.world ce with
    | none => exact Or.inr (Or.inl ⟨ce, rfl, hw, targetEntity_gone c se ce b hs hw⟩)
    | some ent => exact Or.inr (Or.inr ⟨ce, ent, rfl, hw, targetEntity_live c se ce b ent hs hw⟩)

theorem targetEntity_same (c : Client) (se : Nat) (b : Bool) (c' : Client) (ce : Nat)
    (h : targetEntity c se b = .ok (c', ce)) : Same c c' := by
  rcases targetEntity_cases c se b with ⟨_, h'⟩ | ⟨_, _, _, h'⟩ | ⟨_, _, _, _, h'⟩ <;> rw [h'] at h <;> cases h
  · rfl
  · split <;> rfl

theorem applyMapping_same (c : Client) (m : Nat × Nat) : Same c (applyMapping c m) := by
  unfold applyMapping
  cases aget c.world m.2 <;> rfl

theorem applyDespawn_same (c : Client) (se : Nat) : Same c (applyDespawn c se) := by
  unfold applyDespawn mapRemove
  cases aget c.s2c se <;> rfl

theorem applyRemoval_same (t : Nat) (c : Client) (r : Nat × List Nat) (c' : Client)
    (h : applyRemoval t c r = some c') : Same c c' := by
  unfold applyRemoval at h
  cases ht : targetEntity c r.1 false with
  | ok x =>
    obtain ⟨c1, ce⟩ := x
    rw [ht] at h
    refine ((targetEntity_same c r.1 false c1 ce ht).trans (confirm_same c1 ce t)).trans ?_
    simp only at h
    split at h <;> (cases h; rfl)
  | err => rw [ht] at h; cases h
  | panic s => rw [ht] at h; cases h

theorem applyChange_same (t : Nat) (c : Client) (m : MsgEnt) (c' : Client)
    (h : applyChange t c m = some c') : Same c c' := by
  unfold applyChange at h
  cases ht : targetEntity c m.ent true with
  | ok x =>
    obtain ⟨c1, ce⟩ := x
    rw [ht] at h
    cases h
    exact ((targetEntity_same c m.ent true c1 ce ht).trans (confirm_same c1 ce t)).trans (writeComps_same ce m.comps _)
  | err => rw [ht] at h; cases h
  | panic s => rw [ht] at h; cases h

/-- a message that has only a CHANGES section -/
theorem applyUpdate_changes_only (c : Client) (t : Nat) (msgs : List MsgEnt) :
    applyUpdate c { tick := t, changes := msgs } = (foldOpt (applyChange t) ({ c with updateTick := t }, false) msgs).1 :=
  rfl

theorem applyUpdate_same (c : Client) (u : Update) : Same { c with updateTick := u.tick } (applyUpdate c u) := by
  unfold applyUpdate
  exact (((foldl_same _ applyMapping_same u.mappings _).trans
    (foldl_same _ applyDespawn_same u.despawns _)).trans
    (foldOpt_same _ (applyRemoval_same u.tick) u.removals _ false)).trans
    (foldOpt_same _ (applyChange_same u.tick) u.changes _ _)

theorem confirm_tick (c : Client) (ce t : Nat) : (confirm c ce t).updateTick = c.updateTick :=
  (confirm_same c ce t).updateTick

theorem applyUpdate_tick (c : Client) (u : Update) : (applyUpdate c u).updateTick = u.tick :=
  (applyUpdate_same c u).updateTick

/-- update messages arriving in server order -/
def Ordered : Nat → List Update → Prop
  | _, [] => True
  | t, u :: us => t ≤ u.tick ∧ Ordered u.tick us

theorem bufferInsert_tick : True := trivial

theorem applyMutEnt_atomic (c : Client) (tick : Nat) (m : MsgEnt) (c' : Client)
    (h : applyMutEnt c tick m = .ok c') :
    c' = c ∨ ∃ ce last, aget c.s2c m.ent = some ce ∧ (∃ ent, aget c.world ce = some ent ∧ ent.hist = some last) ∧
      last < tick ∧ c' = writeComps (confirm c ce tick) ce m.comps := by
  unfold applyMutEnt at h
  cases hs : aget c.s2c m.ent with
  | none => rw [hs] at h; cases h; left; rfl
  | some ce =>
    rw [hs] at h
    simp only at h
    cases hw : aget c.world ce with
    | none => rw [hw] at h; cases h
    | some ent =>
      rw [hw] at h
      simp only at h
      cases hh : ent.hist with
      | none => rw [hh] at h; cases h
      | some last =>
        rw [hh] at h
        simp only at h
        by_cases ht : tick > last
        · rw [if_pos ht] at h
          cases h
          right
          exact ⟨ce, last, rfl, ⟨ent, hw, hh⟩, ht, rfl⟩
        · rw [if_neg ht] at h; cases h; left; rfl

theorem applyMutEnt_same (c : Client) (tick : Nat) (m : MsgEnt) (c' : Client)
    (h : applyMutEnt c tick m = .ok c') : Same c c' := by
  rcases applyMutEnt_atomic c tick m c' h with h0 | ⟨ce, last, _, _, _, h0⟩
  · rw [h0]; exact Same.refl c
  · rw [h0]; exact Same.trans (confirm_same c ce tick) (writeComps_same ce m.comps _)

/-- what holds of the client and is kept by every record that applies holds after the message
(a record that fails drops the rest) -/
theorem applyMutate_inv (P : Client → Prop) (m : Mutate)
    (hstep : ∀ c e c', P c → applyMutEnt c m.tick e = .ok c' → P c') (c : Client) (h : P c) : P (applyMutate c m) := by
  unfold applyMutate
  refine List.foldlRecOn (motive := fun acc : Client × Bool => P acc.1) (b := (c, false)) m.ents _ h (fun acc hacc e _ => ?_)
  split
  · exact hacc
  · cases hr : applyMutEnt acc.1 m.tick e with
    | ok c' => exact hstep acc.1 e c' hacc hr
    | err => exact hacc
    | panic _ => exact hacc

theorem applyMutate_same (c : Client) (m : Mutate) : Same c (applyMutate c m) :=
  applyMutate_inv (Same c) m (fun c1 e c' h hr => h.trans (applyMutEnt_same c1 m.tick e c' hr)) c (Same.refl c)

theorem applyMutates_same (l : List Mutate) (c : Client) : Same c (l.foldl applyMutate c) :=
  foldl_same _ applyMutate_same l c

theorem trackOne_keeps (c : Client) (m : Mutate) :
    (trackOne c m).acks = c.acks ∧ (trackOne c m).buffered = c.buffered ∧ (trackOne c m).updateTick = c.updateTick ∧
    (trackOne c m).world = c.world ∧ (trackOne c m).s2c = c.s2c ∧ (trackOne c m).c2s = c.c2s ∧ (trackOne c m).next = c.next := by
  unfold trackOne
  cases c.mutTicks with
  | none => exact ⟨rfl, rfl, rfl, rfl, rfl, rfl, rfl⟩
  | some s =>
    simp only
    cases s.confirm m.tick m.count with
    | ok r => exact ⟨rfl, rfl, rfl, rfl, rfl, rfl, rfl⟩
    | err => exact ⟨rfl, rfl, rfl, rfl, rfl, rfl, rfl⟩
    | panic _ => exact ⟨rfl, rfl, rfl, rfl, rfl, rfl, rfl⟩

theorem trackAll_keeps (l : List Mutate) (c : Client) :
    (l.foldl trackOne c).acks = c.acks ∧ (l.foldl trackOne c).buffered = c.buffered :=
  List.foldlRecOn (motive := fun c' => c'.acks = c.acks ∧ c'.buffered = c.buffered) l _ ⟨rfl, rfl⟩
    (fun c1 h x _ => ⟨(trackOne_keeps c1 x).1.trans h.1, (trackOne_keeps c1 x).2.1.trans h.2⟩)

theorem confirm_hist (c : Client) (ce t : Nat) (ent : CEnt) (h : aget c.world ce = some ent) :
    aget (confirm c ce t).world ce = some { ent with hist := some t } := by
  unfold confirm
  rw [h]
  exact aget_aset_same _ _ _

/-- `ClientSet::Reset` in the frame that sees the session end (connected last frame, not any more):
the protocol state goes, the world stays, and nothing delivered is applied -/
theorem frame_disconnected (c : Client) (us : List Update) (ms : List Mutate)
    (h1 : c.lastNotDisconnected = true) (h2 : c.connected = false) :
    frame c us ms =
      { c with updateTick := 0, s2c := [], c2s := [], buffered := [],
               mutTicks := c.mutTicks.map fun _ => MutateTicks.default,
               lastNotDisconnected := false, acks := [], notified := [] } := by
  unfold frame
  simp only [h1, h2, Bool.not_false, Bool.and_self, if_true]

end Replicon.Cli
