import Replicon.Model.Receive
import Replicon.Proofs.EntityCodec
/-
The server's receive path (`Model/Receive.lean`): every decoder is safe (`Res.Safe`) on every
input, with the bounds that `Props/C06.lean` states.
-/
namespace Replicon.Recv
open Replicon Res

/-- `decodeN decodeEntity`: valid entities, each of which used up at least one byte. -/
theorem decodeN_safe : ∀ (n : Nat) (bs : List Nat),
    (Wire.decodeN decodeEntity n bs).Safe fun er =>
      er.1.length + er.2.length ≤ bs.length ∧ ∀ e ∈ er.1, ValidEntity e.1 e.2
  | 0, bs => ⟨Nat.le_of_eq (Nat.zero_add _), fun _ h => nomatch h⟩
  | n + 1, bs => by
    unfold Wire.decodeN
    refine (decodeEntity_safe bs).bind fun er ⟨hv, hr⟩ => (decodeN_safe n er.2).bind fun esr ⟨hlen, hall⟩ => ?_
    refine ⟨?_, fun x hx => (List.mem_cons.mp hx).elim (fun h => h ▸ hv) (hall x)⟩
    have := hr.length_lt
    show esr.1.length + 1 + esr.2.length ≤ bs.length
    omega

theorem targets_safe (bs : List Nat) :
    (decodeTargets bs).Safe fun er =>
      er.1.length + er.2.length < bs.length ∧ ∀ e ∈ er.1, ValidEntity e.1 e.2 :=
  (decodeU64_safe bs).bind fun nr hr =>
    (decodeN_safe nr.1 nr.2).mono fun _ ⟨hlen, hall⟩ => ⟨Nat.lt_of_le_of_lt hlen hr.length_lt, hall⟩

/-- a trigger whose event is read by a safe decoder `payload` (the `u64` and `u32` varints in the
harness) -/
theorem trigger_safe {P : List Nat → Nat × List Nat → Prop} (payload : List Nat → Res (Nat × List Nat))
    (hp : ∀ bs, (payload bs).Safe (P bs)) (bs : List Nat) :
    (decodeTrigger payload bs).Safe fun tv =>
      tv.1.length < bs.length ∧ ∀ e ∈ tv.1, ValidEntity e.1 e.2 :=
  (targets_safe bs).bind fun tr ⟨hlen, hall⟩ =>
    (hp tr.2).bind fun _ _ => ⟨Nat.lt_of_le_of_lt (Nat.le_add_right _ _) hlen, hall⟩

theorem ord_safe (bs : List Nat) : (decodeOrd bs).Safe fun _ => True :=
  ((decodeU32_safe bs).mono fun _ _ => trivial).map

theorem mapped_safe (bs : List Nat) : (decodeMapped bs).Safe fun _ => True :=
  (decodeU32_safe bs).bind fun ir _ => (decodeU64_safe ir.2).bind fun br _ => by
    split
    · trivial
    · trivial

theorem acks_length : ∀ (bs : List Nat), 2 * (Wire.decodeAcks bs).length ≤ bs.length
  | [] => Nat.le_refl 0
  | [_] => Nat.zero_le 1
  | _ :: _ :: rest => by
    unfold Wire.decodeAcks
    have := acks_length rest
    rw [List.length_cons, List.length_cons, List.length_cons]
    omega

theorem acks_range : ∀ (bs : List Nat), (∀ b ∈ bs, b < 256) → ∀ i ∈ Wire.decodeAcks bs, i < 65536
  | [], _, _, hi => nomatch hi
  | [_], _, _, hi => nomatch hi
  | lo :: hi :: rest, hb, i, hi' => by
    unfold Wire.decodeAcks at hi'
    rcases List.mem_cons.mp hi' with rfl | h
    · have h1 := hb lo List.mem_cons_self
      have h2 := hb hi (List.mem_cons_of_mem _ List.mem_cons_self)
      omega
    · exact acks_range rest (fun b hb' => hb b (List.mem_cons_of_mem _ (List.mem_cons_of_mem _ hb'))) i h

end Replicon.Recv
