import Replicon.Proofs.ClientKinds

/-!
# Histories in which the tick advances by more than one

`ServerTick::increment_by(k)` under the manual tick policy: the tick moves `k` ahead without a
replication run in between (the trace checker's `sframe tick=K` is `jump (K − 1)` followed by an
ordinary ticking frame).  `Joint.Op` has no such operation; `Proofs/Joint.lean` adds it *beside*
`Joint.Op` (`OpJ`, `St.jump`).  This file runs such histories with the session's log (`runLogJ`),
shows that every invariant behind the structure theorems is indifferent to the value of the tick,
and states the entity and component theorems of a session for histories with jumps.
-/

namespace Replicon.Joint
open Replicon.Srv Replicon.Cli

def stepJ (st : St) : OpJ → St
  | .op o => (step st o).1
  | .jump k => st.jump k

def logStepJ (st : St) (log : Log) : OpJ → Log
  | .op o => logStep st log o
  | .jump _ => log

def runLogJ : St → Log → List OpJ → St × Log
  | st, log, [] => (st, log)
  | st, log, op :: ops => runLogJ (stepJ st op) (logStepJ st log op) ops

/-- `LegalOp2` for an operation; a jump of the tick is always legal -/
def LegalOpJ (s : Server) : OpJ → Prop
  | .op o => LegalOp2 s o
  | .jump _ => True

/-- `Legal2` for histories with jumps -/
def LegalJ : St → List OpJ → Prop
  | _, [] => True
  | st, op :: ops => LegalOpJ st.srv op ∧ LegalJ (stepJ st op) ops

instance (s : Server) (op : OpJ) : Decidable (LegalOpJ s op) := by
  cases op <;> unfold LegalOpJ <;> infer_instance

def decLegalJ : ∀ (st : St) (ops : List OpJ), Decidable (LegalJ st ops)
  | _, [] => isTrue trivial
  | st, op :: ops =>
    match (inferInstance : Decidable (LegalOpJ st.srv op)), decLegalJ (stepJ st op) ops with
    | isTrue h1, isTrue h2 => isTrue ⟨h1, h2⟩
    | isFalse h1, _ => isFalse fun h => h1 h.1
    | _, isFalse h2 => isFalse fun h => h2 h.2

instance (st : St) (ops : List OpJ) : Decidable (LegalJ st ops) := decLegalJ st ops

/-! ### the invariants do not read the tick -/

theorem sync_jump (st : St) (k : Nat) (inv : SyncInv st.srv) : SyncInv (st.jump k).srv :=
  inv.transport rfl rfl rfl rfl id

theorem rem_jump (st : St) (k : Nat) (inv : RemInv st.srv) : RemInv (st.jump k).srv :=
  inv.transport rfl rfl rfl rfl

theorem kind_jump (st : St) (k : Nat) (inv : KindInv st.srv) : KindInv (st.jump k).srv :=
  inv.transport rfl (Nat.le_refl _) rfl (fun _ _ h => h) inv.remNodup

theorem ck_jump (st : St) (k : Nat) (cl : Cli) (G : Nat → List Nat) (h : CK st.srv cl G) :
    CK (st.jump k).srv cl G :=
  ⟨h.none, h.rate, h.kept⟩

theorem sess_jump (st : St) (log : Log) (k : Nat) (inv : SessInv st log) : SessInv (st.jump k) log :=
  ⟨sync_jump st k inv.sync, rem_jump st k inv.rem, inv.cli⟩

theorem ksess_jump (st : St) (log : Log) (k : Nat) (inv : KSess st log) : KSess (st.jump k) log :=
  ⟨sess_jump st log k inv.sess, kind_jump st k inv.kind, fun x hx => ck_jump st k x.2 _ (inv.ck x hx)⟩

theorem ksess_stepJ (st : St) (log : Log) (op : OpJ) (inv : KSess st log) (hl : LegalOpJ st.srv op) :
    KSess (stepJ st op) (logStepJ st log op) := by
  cases op with
  | op o => exact ksess_step st log o inv hl
  | jump k => exact ksess_jump st log k inv

theorem ksess_runJ (ops : List OpJ) : ∀ (st : St) (log : Log), KSess st log → LegalJ st ops →
    KSess (runLogJ st log ops).1 (runLogJ st log ops).2 := by
  induction ops with
  | nil => intro st log inv _; exact inv
  | cons op ops ih =>
    intro st log inv hl
    exact ih _ _ (ksess_stepJ st log op inv hl.1) hl.2

/-- entities and component kinds over all histories with tick jumps, both models
(`C03_history_with_tick_jumps`) -/
theorem session_with_jumps (s0 : Server) (hw : s0.world = []) (hc0 : s0.clients = []) (hb : s0.removalBuf = [])
    (ht : s0.lastRun < s0.now) (ops : List OpJ) (hl : LegalJ { srv := s0 } ops)
    (ticked : Bool) (ms : Nat) (parts : Nat → List (List Nat))
    (hr : (runLogJ { srv := s0 } (fun _ => []) ops).1.srv.running = true)
    (hc : (preRun (runLogJ { srv := s0 } (fun _ => []) ops).1.srv ticked ms).tickChanged = true) :
    ∀ x ∈ (step (runLogJ { srv := s0 } (fun _ => []) ops).1 (.frame ticked ms parts)).1.srv.clients,
      x.2.authorized = true →
      (WF (replay (logStep (runLogJ { srv := s0 } (fun _ => []) ops).1 (runLogJ { srv := s0 } (fun _ => []) ops).2
            (.frame ticked ms parts) x.1)) ∧
       ∀ se, held (replay (logStep (runLogJ { srv := s0 } (fun _ => []) ops).1 (runLogJ { srv := s0 } (fun _ => []) ops).2
            (.frame ticked ms parts) x.1)) se ↔
         marked (step (runLogJ { srv := s0 } (fun _ => []) ops).1 (.frame ticked ms parts)).1.srv.world se ∧
         Vis.isVisible (step (runLogJ { srv := s0 } (fun _ => []) ops).1 (.frame ticked ms parts)).1.srv.white (cell x.2 se) = true) ∧
      (∀ e, e ∈ keys x.2 → ∀ ent,
        (e, ent) ∈ (step (runLogJ { srv := s0 } (fun _ => []) ops).1 (.frame ticked ms parts)).1.srv.world →
        ∀ k, k ∈ ghostKinds (logStep (runLogJ { srv := s0 } (fun _ => []) ops).1 (runLogJ { srv := s0 } (fun _ => []) ops).2
            (.frame ticked ms parts) x.1) e ↔
          k ∈ presentKinds (step (runLogJ { srv := s0 } (fun _ => []) ops).1 (.frame ticked ms parts)).1.srv ent) ∧
      (∀ e, e ∈ keys x.2 → ∀ ent,
        (e, ent) ∈ (step (runLogJ { srv := s0 } (fun _ => []) ops).1 (.frame ticked ms parts)).1.srv.world →
        ∀ k, k ∈ kindsOn (replay (logStep (runLogJ { srv := s0 } (fun _ => []) ops).1 (runLogJ { srv := s0 } (fun _ => []) ops).2
            (.frame ticked ms parts) x.1)) e ↔
          k ∈ presentKinds (step (runLogJ { srv := s0 } (fun _ => []) ops).1 (.frame ticked ms parts)).1.srv ent) := by
  have inv := ksess_runJ ops _ _ (ksess_empty s0 hw hc0 hb ht) hl
  intro x hx ha
  exact ⟨view_of_sess _ _ inv.sess ticked ms parts hr hc x hx ha,
         kinds_of_ksess _ _ inv ticked ms parts hr hc x hx ha,
         clientKinds_of_ksess _ _ inv ticked ms parts hr hc x hx ha⟩

/-- a jump changes nothing but the tick: the next frame's update messages carry the advanced tick -/
theorem jump_fields (st : St) (k : Nat) :
    (st.jump k).srv.tick = st.srv.tick + k ∧ (st.jump k).srv.world = st.srv.world ∧
    (st.jump k).srv.clients = st.srv.clients ∧ (st.jump k).srv.now = st.srv.now ∧
    (st.jump k).srv.lastRun = st.srv.lastRun ∧ (st.jump k).srv.tickChanged = st.srv.tickChanged ∧
    (st.jump k).ev = st.ev ∧ (st.jump k).pending = st.pending :=
  ⟨rfl, rfl, rfl, rfl, rfl, rfl, rfl, rfl⟩

/-- `session_view_any_schedule` for histories with jumps (`C01_history_same_entities_with_tick_jumps`) -/
theorem session_any_schedule_with_jumps (s0 : Server) (hw : s0.world = []) (hc0 : s0.clients = [])
    (hb : s0.removalBuf = []) (ht : s0.lastRun < s0.now) (ops : List OpJ) (hl : LegalJ { srv := s0 } ops)
    (ticked : Bool) (ms : Nat) (parts : Nat → List (List Nat))
    (hr : (runLogJ { srv := s0 } (fun _ => []) ops).1.srv.running = true)
    (hc : (preRun (runLogJ { srv := s0 } (fun _ => []) ops).1.srv ticked ms).tickChanged = true) :
    ∀ x ∈ (step (runLogJ { srv := s0 } (fun _ => []) ops).1 (.frame ticked ms parts)).1.srv.clients,
      x.2.authorized = true →
      ∀ arrivals : List Arrival,
        updatesOf arrivals = logStep (runLogJ { srv := s0 } (fun _ => []) ops).1
          (runLogJ { srv := s0 } (fun _ => []) ops).2 (.frame ticked ms parts) x.1 →
        WF (runArrivals {} arrivals) ∧
        ∀ se, held (runArrivals {} arrivals) se ↔
          marked (step (runLogJ { srv := s0 } (fun _ => []) ops).1 (.frame ticked ms parts)).1.srv.world se ∧
          Vis.isVisible (step (runLogJ { srv := s0 } (fun _ => []) ops).1 (.frame ticked ms parts)).1.srv.white (cell x.2 se) = true :=
  anySchedule_of_sess _ _ (ksess_runJ ops _ _ (ksess_empty s0 hw hc0 hb ht) hl).sess ticked ms parts hr hc

end Replicon.Joint
