import Replicon.Proofs.Joint
/-
Local re-emission of events sent towards clients, over arbitrary histories of the joint server
model, with or without jumps of the tick (C13): the local game observes exactly the events whose
recipients include the local server, each once, in emission order.
-/
namespace Replicon.Joint
open Replicon Replicon.Srv Replicon.Evt

/-- the payloads a history emits with the local server among the recipients -/
def emittedLocal : List Op → List Nat
  | [] => []
  | .emit em :: ops => (if localDelivery em.ev.mode then [em.ev.id] else []) ++ emittedLocal ops
  | _ :: ops => emittedLocal ops

def emittedLocalJ : List OpJ → List Nat
  | [] => []
  | .op o :: ops => emittedLocal [o] ++ emittedLocalJ ops
  | .jump _ :: ops => emittedLocalJ ops

theorem localIds_append (a b : List Emitted) : localIds (a ++ b) = localIds a ++ localIds b := by
  simp [localIds]

theorem localIds_singleton (em : Emitted) :
    localIds [em] = if localDelivery em.ev.mode then [em.ev.id] else [] := by
  by_cases h : localDelivery em.ev.mode = true <;> simp [localIds, h]

theorem emittedLocal_eq (ops : List Op) : emittedLocal ops = localIds (ops.flatMap Op.emitted) := by
  induction ops with
  | nil => rfl
  | cons op ops ih =>
    rw [List.flatMap_cons, localIds_append, ← ih]
    cases op
    case emit em => exact congrArg (· ++ _) (localIds_singleton em).symm
    all_goals rfl

theorem emittedLocalJ_eq (ops : List OpJ) : emittedLocalJ ops = localIds (ops.flatMap OpJ.emitted) := by
  induction ops with
  | nil => rfl
  | cons op ops ih =>
    rw [List.flatMap_cons, localIds_append, ← ih]
    cases op with
    | op o => exact congrArg (· ++ _) ((emittedLocal_eq [o]).trans (congrArg _ (List.flatMap_singleton ..)))
    | jump k => rfl

theorem frame_pending (st : St) (ticked : Bool) (ms : Nat) (parts : Nat → List (List Nat)) :
    (frame st ticked ms parts).1.pending = [] := rfl

theorem frame_localLog (st : St) (ticked : Bool) (ms : Nat) (parts : Nat → List (List Nat)) :
    (frame st ticked ms parts).1.localLog = st.localLog ++ localIds st.pending := by
  cases hr : st.srv.running
  · rw [frame_stopped st ticked ms parts hr]
  · cases hc : (preRun st.srv ticked ms).tickChanged
    · rw [frame_idle st ticked ms parts hr hc]
    · rw [frame_ran st ticked ms parts hr hc]

theorem local_stepJ (st : St) (op : OpJ) :
    (stepJO st op).1.localLog ++ localIds (stepJO st op).1.pending =
      st.localLog ++ localIds st.pending ++ localIds op.emitted := by
  rcases stepJO_ev st op with ⟨t, ms, parts, rfl⟩ | hq
  · show (frame st t ms parts).1.localLog ++ localIds (frame st t ms parts).1.pending = _
    rw [frame_localLog, frame_pending]
    rfl
  · rw [hq.pending, hq.localLog, localIds_append, List.append_assoc]

theorem local_logJ (ops : List OpJ) : ∀ (st : St),
    (runJ st ops).1.localLog ++ localIds (runJ st ops).1.pending =
      st.localLog ++ localIds st.pending ++ emittedLocalJ ops := by
  rw [emittedLocalJ_eq]
  induction ops with
  | nil => intro st; exact (List.append_nil _).symm
  | cons op ops ih =>
    intro st
    have h : (runJ st (op :: ops)).1 = (runJ (stepJO st op).1 ops).1 := rfl
    rw [h, ih, local_stepJ, List.flatMap_cons, localIds_append, List.append_assoc]

theorem emittedLocalJ_map (ops : List Op) : emittedLocalJ (ops.map .op) = emittedLocal ops := by
  rw [emittedLocalJ_eq, emittedLocal_eq, List.flatMap_map]
  rfl

theorem local_log (ops : List Op) (st : St) :
    (run st ops).1.localLog ++ localIds (run st ops).1.pending =
      st.localLog ++ localIds st.pending ++ emittedLocal ops := by
  rw [run_eq_runJ, ← emittedLocalJ_map]
  exact local_logJ _ st

theorem emittedLocal_append_frame (ops : List Op) (t : Bool) (ms : Nat) (parts : Nat → List (List Nat)) :
    emittedLocal (ops ++ [.frame t ms parts]) = emittedLocal ops := by
  rw [emittedLocal_eq, emittedLocal_eq, List.flatMap_append]
  exact congrArg localIds (List.append_nil _)

theorem pending_after_frame (t : Bool) (ms : Nat) (parts : Nat → List (List Nat)) (l : List Op) (st : St) :
    (run st (l ++ [.frame t ms parts])).1.pending = [] := by
  rw [run_append]
  exact frame_pending _ t ms parts

end Replicon.Joint
