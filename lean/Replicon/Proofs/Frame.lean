import Replicon.Model.Joint
import Replicon.Proofs.Run
/-
What one server frame IS: `preRun` and `Server.fullFrame` (what `Joint.frame` does to the
replication state, in its three cases stopped / idle / ran) as record equations.  An invariant's
frame case reads every field it speaks of off these equations by `rfl`.  In the order of a frame: its
first half (`preG`, `buffer_removals`, `preRun_eq`), then its three cases.
-/
namespace Replicon.Srv

/-- the `on_timer` condition of `cleanup_acks` holds in a frame of `ms` milliseconds -/
def fired (s : Server) (ms : Nat) : Bool :=
  decide (s.timerAcc + s.frameMs ms ≥ s.timeout) && decide (s.timeout > 0)

/-- `preRun` for one client: `receive_acks`, and the expired messages in flight dropped when the `cleanup_acks`
timer fires (the condition is `fired s ms`, written out as in `Server.frameBegin`) -/
def preG (s : Server) (ms : Nat) (cl : Cli) : Cli :=
  if (decide (s.timerAcc + s.frameMs ms ≥ s.timeout) && decide (s.timeout > 0)) = true then
    { cl.processAcks with inflight := cl.processAcks.inflight.filter fun i => !(i.time < s.elapsed + s.frameMs ms - s.timeout) }
  else cl.processAcks

theorem preG_rest (s : Server) (ms : Nat) (cl : Cli) :
    preG s ms cl = { cl with mutTick := cl.processAcks.mutTick, inflight := (preG s ms cl).inflight, pendingAcks := [] } := by
  unfold preG
  split <;> rw [processAcks_rest cl]

theorem preG_vis (s : Server) (ms : Nat) (cl : Cli) : (preG s ms cl).vis = cl.vis := by rw [preG_rest]
theorem preG_authorized (s : Server) (ms : Nat) (cl : Cli) : (preG s ms cl).authorized = cl.authorized := by rw [preG_rest]
theorem _root_.Replicon.Joint.preG_mappings (s : Server) (ms : Nat) (cl : Cli) : (preG s ms cl).mappings = cl.mappings := by
  rw [preG_rest]
theorem preG_updateTick (s : Server) (ms : Nat) (cl : Cli) : (preG s ms cl).updateTick = cl.updateTick := by rw [preG_rest]

theorem preG_keys (s : Server) (ms : Nat) (cl : Cli) (j : Nat) : j ∈ keys (preG s ms cl) ↔ j ∈ keys cl := by
  unfold keys
  rw [preG_rest]
  exact processAcks_keys cl j

theorem preG_sync (s : Server) (ms : Nat) (cl : Cli) :
    (preG s ms cl).vis = cl.vis ∧ (∀ j, j ∈ keys (preG s ms cl) ↔ j ∈ keys cl) ∧
    (preG s ms cl).authorized = cl.authorized :=
  ⟨preG_vis s ms cl, preG_keys s ms cl, preG_authorized s ms cl⟩

/-- one step of the `buffer_removals` loop -/
def bufStep (s : Server) (buf : List (Nat × List Nat)) (x : Nat × Nat) : List (Nat × List Nat) :=
  match aget s.world x.1 with
  | some ent =>
    if ent.marker.isSome && s.rates.any (·.1 = x.2) then
      let old := (aget buf x.1).getD []
      if old.contains x.2 then buf else aset buf x.1 (old ++ [x.2])
    else buf
  | none => buf

/-- when `buffer_removals` buffers a removal event of kind `k` of entity `e` -/
def bufCond (s : Server) (e k : Nat) : Prop :=
  ∃ ent, aget s.world e = some ent ∧ ent.marker.isSome = true ∧ s.rates.any (·.1 = k) = true

theorem bufStep_of_cond {s : Server} {x : Nat × Nat} (buf : List (Nat × List Nat)) (h : bufCond s x.1 x.2) :
    bufStep s buf x = if ((aget buf x.1).getD []).contains x.2 then buf
      else aset buf x.1 ((aget buf x.1).getD [] ++ [x.2]) := by
  obtain ⟨ent, hg, h1, h2⟩ := h
  unfold bufStep
  rw [hg]
  simp only
  rw [if_pos (by rw [h1, h2]; rfl)]

theorem bufStep_of_not {s : Server} {x : Nat × Nat} (buf : List (Nat × List Nat)) (h : ¬ bufCond s x.1 x.2) :
    bufStep s buf x = buf := by
  unfold bufStep
  cases hg : aget s.world x.1 with
  | none => rfl
  | some ent =>
    simp only
    rw [if_neg fun hc => h ⟨ent, hg, (Bool.and_eq_true _ _).mp hc⟩]

theorem bufferRemovals_eq (s : Server) :
    s.bufferRemovals =
      { s with
        removalBuf := if s.running then (s.pendingRemOld ++ s.pendingRem).foldl (bufStep s) s.removalBuf else s.removalBuf,
        pendingRem := [],
        pendingRemOld := if s.running then [] else s.pendingRem } := by
  unfold Server.bufferRemovals
  cases s.running <;> rfl

theorem tickIf_eq (x : Server) (ticked : Bool) :
    (if ticked then { x with tick := x.tick + 1, tickChanged := true } else x) =
      { x with tick := if ticked then x.tick + 1 else x.tick, tickChanged := ticked || x.tickChanged } := by
  cases ticked <;> rfl

theorem cleanupIf_eq (x : Server) (b : Bool) (t : Nat) :
    (if b then x.cleanupAcks t else x) =
      { x with clients := x.clients.map fun y =>
          (y.1, if b then { y.2 with inflight := y.2.inflight.filter fun i => !(i.time < t) } else y.2) } := by
  cases b
  · show x = { x with clients := x.clients.map fun y => y }
    rw [List.map_id']
  · rfl

/-- The conditional stages are pushed into the fields first: a case split on them here would have to
simplify the whole state four times. -/
theorem preRun_eq (s : Server) (ticked : Bool) (ms : Nat) :
    preRun s ticked ms =
      { s with
        elapsed := s.elapsed + s.frameMs ms,
        timerAcc := if fired s ms then (s.timerAcc + s.frameMs ms) % s.timeout else s.timerAcc + s.frameMs ms,
        timeStarted := true, lastRunning := true,
        clients := s.clients.map fun x => (x.1, preG s ms x.2),
        tick := if ticked then s.tick + 1 else s.tick,
        tickChanged := ticked || s.tickChanged,
        removalBuf := if s.running then (s.pendingRemOld ++ s.pendingRem).foldl (bufStep s) s.removalBuf else s.removalBuf,
        pendingRem := [],
        pendingRemOld := if s.running then [] else s.pendingRem } := by
  unfold preRun
  simp only
  rw [bufferRemovals_eq, tickIf_eq, cleanupIf_eq]
  simp only [List.map_map]
  rfl

theorem mem_preRun_clients {s : Server} {ticked : Bool} {ms : Nat} {x : Nat × Cli}
    (h : x ∈ (preRun s ticked ms).clients) :
    ∃ cl0, (x.1, cl0) ∈ s.clients ∧ x.2 = preG s ms cl0 := by
  rw [preRun_eq] at h
  obtain ⟨y, hy, rfl⟩ := List.mem_map.mp h
  exact ⟨y.2, hy, rfl⟩

theorem preRun_clientIds (s : Server) (ticked : Bool) (ms : Nat) :
    (preRun s ticked ms).clients.map (·.1) = s.clients.map (·.1) := by
  rw [preRun_eq]
  exact List.map_map

theorem present_preRun (s : Server) (ticked : Bool) (ms : Nat) (ent : SEnt) :
    present (preRun s ticked ms) ent = present s ent := by
  unfold present
  rw [preRun_eq]

/-- one whole server frame (what `Joint.frame` does to the replication state) -/
def Server.fullFrame (s : Server) (ticked : Bool) (ms : Nat) (parts : Nat → List (List Nat)) : Server :=
  (s.frameBegin ticked ms).1.frameEnd (s.frameBegin ticked ms).2.1 parts

/-- a client at the end of a frame in which `send_replication` ran -/
def ranClient (p : Server) (parts : Nat → List (List Nat)) (x : Nat × Cli) : Nat × Cli :=
  (x.1, if x.2.authorized then afterRun p (p.now + 1) p.elapsed (parts x.1) x.2 else x.2)

/-- the end of a frame in which `send_replication` ran, from the state `p` right before the run -/
def ranFrame (p : Server) (parts : Nat → List (List Nat)) : Server :=
  { p with clients := p.clients.map (ranClient p parts), despawnBuf := [], removalBuf := [],
           lastRun := p.now + 1, now := p.now + 2, tickChanged := false }

theorem ranClient_authorized (p : Server) (parts : Nat → List (List Nat)) (x : Nat × Cli) :
    (ranClient p parts x).2.authorized = x.2.authorized := by
  unfold ranClient
  split
  · exact afterRun_authorized ..
  · rfl

/-- does the run from `p` send client `cl` an update message? -/
def sendsTo (p : Server) (cl : Cli) : Bool := cl.authorized && !(runUpdate p (p.now + 1) cl).isEmpty

theorem ranClient_updateTick (p : Server) (parts : Nat → List (List Nat)) (x : Nat × Cli) :
    (ranClient p parts x).2.updateTick = if sendsTo p x.2 then p.tick else x.2.updateTick := by
  unfold ranClient sendsTo
  cases x.2.authorized
  · rfl
  · rw [if_pos rfl, afterRun_updateTick, runClient_updateTick]
    cases (runUpdate p (p.now + 1) x.2).isEmpty <;> rfl

theorem frameBegin_running (s : Server) (ticked : Bool) (ms : Nat) (h : s.running = true) :
    s.frameBegin ticked ms =
      if !(preRun s ticked ms).tickChanged then (preRun s ticked ms, false, [])
      else ((preRun s ticked ms).runAll.1, true, (preRun s ticked ms).runAll.2) := by
  unfold Server.frameBegin preRun
  simp only [h, Bool.not_true, Bool.false_eq_true, if_false]

theorem resetIf_eq (x : Server) (b : Bool) :
    (if b then x.reset else x) =
      { x with tick := if b then 0 else x.tick, tickChanged := b || x.tickChanged,
               clients := if b then [] else x.clients, despawnBuf := if b then [] else x.despawnBuf,
               removalBuf := if b then [] else x.removalBuf } := by
  cases b <;> rfl

/-- `reset` runs once, in the first frame after the stop (`lastRunning`). -/
theorem fullFrame_of_stopped (s : Server) (ticked : Bool) (ms : Nat) (parts : Nat → List (List Nat))
    (h : s.running = false) :
    s.fullFrame ticked ms parts =
      { s with
        elapsed := s.elapsed + s.frameMs ms,
        timerAcc := if fired s ms then (s.timerAcc + s.frameMs ms) % s.timeout else s.timerAcc + s.frameMs ms,
        timeStarted := true, lastRunning := false, now := s.now + 2,
        pendingRem := [], pendingRemOld := s.pendingRem,
        tickChanged := s.lastRunning && !s.resetBeforeCondition,
        tick := if s.lastRunning then 0 else s.tick,
        clients := if s.lastRunning then [] else s.clients,
        despawnBuf := if s.lastRunning then [] else s.despawnBuf,
        removalBuf := if s.lastRunning then [] else s.removalBuf } := by
  unfold Server.fullFrame Server.frameBegin
  simp only [h, Bool.not_false, if_true]
  rw [resetIf_eq]
  rfl

theorem fullFrame_of_idle (s : Server) (ticked : Bool) (ms : Nat) (parts : Nat → List (List Nat))
    (hr : s.running = true) (hc : (preRun s ticked ms).tickChanged = false) :
    s.fullFrame ticked ms parts = { preRun s ticked ms with now := (preRun s ticked ms).now + 2 } := by
  unfold Server.fullFrame
  rw [frameBegin_running s ticked ms hr, if_pos (by rw [hc]; rfl)]
  rfl

theorem fullFrame_of_ran (s : Server) (ticked : Bool) (ms : Nat) (parts : Nat → List (List Nat))
    (hr : s.running = true) (hc : (preRun s ticked ms).tickChanged = true) :
    s.fullFrame ticked ms parts = ranFrame (preRun s ticked ms) parts := by
  unfold Server.fullFrame
  rw [frameBegin_running s ticked ms hr, if_neg (by rw [hc]; exact Bool.false_ne_true)]
  generalize preRun s ticked ms = p
  rw [runAll_fst]
  unfold Server.frameEnd ranFrame
  simp only [Bool.not_true, Bool.false_eq_true, if_false, List.map_map]
  congr 1
  apply List.map_congr_left
  intro x _
  unfold ranClient afterRun
  simp only [Function.comp]
  cases ha : x.2.authorized with
  | false => simp only [ha, Bool.false_eq_true, if_false]
  | true => simp only [if_true, (show (runClient p (p.now + 1) x.2).1.authorized = true by rw [runClient_rest]; exact ha)]

theorem frameBegin_of_stopped (s : Server) (ticked : Bool) (ms : Nat) (h : s.running = false) :
    (s.frameBegin ticked ms).2 = (false, []) := by
  unfold Server.frameBegin
  simp only [h, Bool.not_false, if_true]

theorem frameBegin_of_idle (s : Server) (ticked : Bool) (ms : Nat)
    (hr : s.running = true) (hc : (preRun s ticked ms).tickChanged = false) :
    (s.frameBegin ticked ms).2 = (false, []) := by
  rw [frameBegin_running s ticked ms hr, if_pos (by rw [hc]; rfl)]

theorem frameBegin_of_ran (s : Server) (ticked : Bool) (ms : Nat)
    (hr : s.running = true) (hc : (preRun s ticked ms).tickChanged = true) :
    (s.frameBegin ticked ms).2 = (true, (preRun s ticked ms).runAll.2) := by
  rw [frameBegin_running s ticked ms hr, if_neg (by rw [hc]; exact Bool.false_ne_true)]

end Replicon.Srv
