import Replicon.Model.Packing
/-
The chunking loop of `Mutations::send` (`Model/Packing.lean`), seen through two readings of its
state: everything processed so far in order (`St.all`: nothing is lost, reordered or divided) and
the bound invariant `Fits` (no message exceeds the maximum while every chunk fits one).  Between
the two, what `can_pack` says of a message that still fits; at the end, nothing is split while
everything fits into one message.
-/
namespace Replicon.Packing

def St.all (st : St) : List Nat := (st.done.reverse).flatten ++ st.cur.reverse

theorem step_all (header max : Nat) (st : St) (m : Nat) : (step header max st m).all = st.all ++ [m] := by
  unfold step St.all
  split
  · rw [List.reverse_cons, List.flatten_concat]
    rfl
  · rw [List.reverse_cons, List.append_assoc]

theorem fold_all (header max : Nat) : ∀ (sizes : List Nat) (st : St),
    (sizes.foldl (step header max) st).all = st.all ++ sizes
  | [], st => (List.append_nil _).symm
  | m :: ms, st => by rw [List.foldl_cons, fold_all header max ms, step_all, List.append_assoc]; rfl

theorem finish_flatten (st : St) (track : Bool) : (finish st track).flatten = st.all := by
  unfold finish St.all
  split
  · rw [List.reverse_cons, List.flatten_concat]
  · next h =>
    rw [Classical.not_not.mp fun hc => h (Or.inl hc)]
    exact (List.append_nil _).symm

theorem mem_finish (st : St) (track : Bool) (msg : List Nat) :
    msg ∈ finish st track ↔ msg ∈ st.done ∨ (msg = st.cur.reverse ∧ (st.cur ≠ [] ∨ track = true)) := by
  unfold finish
  rw [List.mem_reverse]
  split
  · next h => rw [List.mem_cons, or_comm, and_iff_left h]
  · next h => exact ⟨Or.inl, fun hh => hh.elim id fun hc => absurd hc.2 h⟩

theorem canPack_fits (a b max : Nat) (ha : a ≤ max) (h : canPack a b max = true) : a + b ≤ max := by
  unfold canPack at h
  obtain ⟨h1, h2⟩ := Bool.and_eq_true_iff.mp h
  rcases Nat.lt_or_eq_of_le ha with hlt | heq
  · rw [Nat.mod_eq_of_lt hlt] at h2
    exact of_decide_eq_true h2
  · -- a full message: the remainder is 0, the first test fails
    rw [heq, Nat.mod_self] at h1
    exact absurd (of_decide_eq_true h1) (Nat.lt_irrefl 0)

theorem canPack_of_fits (a b max : Nat) (ha : 0 < a) (h : a + b ≤ max) (hb : 0 < b) : canPack a b max = true := by
  unfold canPack
  rw [Nat.mod_eq_of_lt (Nat.lt_of_lt_of_le (Nat.lt_add_of_pos_right hb) h)]
  exact Bool.and_eq_true_iff.mpr ⟨decide_eq_true ha, decide_eq_true h⟩

/-- The bound invariant: every finished message and the current one fit, and `body` is the
current message's size. -/
structure Fits (header max : Nat) (st : St) : Prop where
  done : ∀ msg ∈ st.done, header + msg.sum ≤ max
  body : st.body = st.cur.sum
  cur : st.cur ≠ [] → header + st.body ≤ max

theorem Fits.init (header max : Nat) : Fits header max {} :=
  ⟨fun _ h => absurd h List.not_mem_nil, rfl, fun h => absurd rfl h⟩

theorem Fits.closed {header max : Nat} {st : St} (inv : Fits header max st) (h : st.cur ≠ []) :
    header + st.cur.reverse.sum ≤ max := by
  rw [List.sum_reverse_nat, ← inv.body]
  exact inv.cur h

theorem step_fits (header max : Nat) (st : St) (m : Nat) (hm : header + m ≤ max) (inv : Fits header max st) :
    Fits header max (step header max st m) := by
  have hne : st.body ≠ 0 → st.cur ≠ [] := fun hb hc => hb (by rw [inv.body, hc]; rfl)
  unfold step
  split
  · next hsplit =>
    refine ⟨fun msg hmem => ?_, (Nat.add_zero m).symm, fun _ => hm⟩
    rcases List.mem_cons.mp hmem with rfl | h
    · exact inv.closed (hne hsplit.1)
    · exact inv.done msg h
  · next hns =>
    refine ⟨inv.done, by rw [List.sum_cons, inv.body, Nat.add_comm], fun _ => ?_⟩
    show header + (st.body + m) ≤ max
    by_cases hb : st.body = 0
    · rw [hb, Nat.zero_add]
      exact hm
    · -- one of the two `can_pack` tests succeeded, on a message that fits
      rcases Classical.not_and_iff_not_or_not.mp (fun h => hns ⟨hb, h⟩) with h | h
      · rw [← Nat.add_assoc]
        exact canPack_fits _ _ _ (inv.cur (hne hb)) (Bool.of_not_eq_false h)
      · rw [Nat.add_comm st.body, ← Nat.add_assoc]
        exact canPack_fits _ _ _ hm (Bool.of_not_eq_false h)

theorem fold_fits (header max : Nat) : ∀ (sizes : List Nat) (st : St),
    (∀ m ∈ sizes, header + m ≤ max) → Fits header max st → Fits header max (sizes.foldl (step header max) st)
  | [], _, _, inv => inv
  | m :: ms, st, hall, inv =>
    fold_fits header max ms _ (fun x hx => hall x (List.mem_cons_of_mem _ hx))
      (step_fits header max st m (hall m List.mem_cons_self) inv)

theorem step_nosplit (header max : Nat) (st : St) (m : Nat) (hh : 0 < header)
    (hfit : header + st.body + m ≤ max) :
    step header max st m = { st with cur := m :: st.cur, body := st.body + m } := by
  unfold step
  refine if_neg fun ⟨hb, h1, h2⟩ => ?_
  rcases Nat.eq_zero_or_pos m with rfl | hmp
  · -- an empty chunk: the second test packs the current body behind it
    rw [canPack_of_fits (header + 0) st.body max hh (by omega) (Nat.pos_of_ne_zero hb)] at h2
    cases h2
  · rw [canPack_of_fits (header + st.body) m max (by omega) hfit hmp] at h1
    cases h1

theorem fold_nosplit (header max : Nat) (hh : 0 < header) : ∀ (sizes : List Nat) (st : St),
    header + st.body + sizes.sum ≤ max →
    sizes.foldl (step header max) st = { st with cur := sizes.reverse ++ st.cur, body := st.body + sizes.sum }
  | [], _, _ => rfl
  | m :: ms, st, hfit => by
    rw [List.sum_cons, ← Nat.add_assoc] at hfit
    rw [List.foldl_cons, step_nosplit header max st m hh (Nat.le_trans (Nat.le_add_right _ _) hfit),
      fold_nosplit header max hh ms _ (Nat.add_assoc header st.body m ▸ hfit), List.reverse_cons, List.append_assoc, List.sum_cons, Nat.add_assoc]
    rfl

theorem split_of_fits (header max : Nat) (sizes : List Nat) (track : Bool) (hh : 0 < header)
    (hfit : header + sizes.sum ≤ max) (hne : sizes ≠ []) : split header max sizes track = [sizes] := by
  unfold split
  rw [fold_nosplit header max hh sizes {} ((Nat.add_zero header).symm ▸ hfit)]
  unfold finish
  rw [if_pos (Or.inl fun h => hne (List.reverse_eq_nil_iff.mp (List.append_eq_nil_iff.mp h).1))]
  show [(sizes.reverse ++ []).reverse] = _
  rw [List.append_nil, List.reverse_reverse]

end Replicon.Packing
