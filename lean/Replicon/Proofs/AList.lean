import Replicon.Model.Server
import Replicon.Proofs.Lookup
/-
The association lists of the model (`aget`, `aset`, `adel` of `Model/Server.lean`): lookup after an
update, membership, distinct keys.  Everything rests on the one computation rule `aget_cons`.
-/
namespace Replicon.Srv

theorem aget_cons {α : Type} (l : List (Nat × α)) (k0 : Nat) (v0 : α) (k : Nat) :
    aget ((k0, v0) :: l) k = if k = k0 then some v0 else aget l k :=
  List.lookup_cons_ite k0 k v0 l

theorem aget_filter_key {α : Type} (p : Nat → Bool) (l : List (Nat × α)) (k : Nat) :
    aget (l.filter fun x => p x.1) k = if p k then aget l k else none := by
  induction l with
  | nil => split <;> rfl
  | cons x xs ih =>
    obtain ⟨a, b⟩ := x
    rw [List.filter_cons, aget_cons]
    by_cases hk : k = a
    · subst hk
      by_cases hp : p k = true
      · rw [if_pos hp, if_pos hp, aget_cons, if_pos rfl, if_pos rfl]
      · rw [if_neg hp, if_neg hp, ih, if_neg hp]
    · rw [if_neg hk]
      split
      · rw [aget_cons, if_neg hk, ih]
      · exact ih

theorem aget_aset {α : Type} (l : List (Nat × α)) (k j : Nat) (v : α) :
    aget (aset l k v) j = if j = k then some v else aget l j := by
  unfold aset
  rw [aget_cons]
  split
  · rfl
  · rename_i h
    rw [aget_filter_key (fun a => decide (a ≠ k)), if_pos (decide_eq_true h)]

theorem aget_adel {α : Type} (l : List (Nat × α)) (k j : Nat) :
    aget (adel l k) j = if j = k then none else aget l j := by
  unfold adel
  rw [aget_filter_key (fun a => decide (a ≠ k))]
  by_cases h : j = k
  · rw [if_pos h, if_neg (by rw [decide_eq_true_eq]; exact fun hn => hn h)]
  · rw [if_neg h, if_pos (decide_eq_true h)]

theorem aget_aset_same {α : Type} (l : List (Nat × α)) (k : Nat) (v : α) : aget (aset l k v) k = some v := by
  rw [aget_aset, if_pos rfl]

theorem aget_aset_other {α : Type} (l : List (Nat × α)) (k j : Nat) (v : α) (h : j ≠ k) :
    aget (aset l k v) j = aget l j := by
  rw [aget_aset, if_neg h]

theorem aget_adel_same {α : Type} (l : List (Nat × α)) (k : Nat) : aget (adel l k) k = none := by
  rw [aget_adel, if_pos rfl]

theorem aget_adel_other {α : Type} (l : List (Nat × α)) (k j : Nat) (h : j ≠ k) :
    aget (adel l k) j = aget l j := by
  rw [aget_adel, if_neg h]

theorem aget_adel_some {α : Type} {l : List (Nat × α)} {k j : Nat} {v : α} (h : aget (adel l k) j = some v) :
    j ≠ k ∧ aget l j = some v := by
  rw [aget_adel] at h
  split at h
  · cases h
  · exact ⟨‹_›, h⟩

theorem aget_map_snd {α β : Type} (f : α → β) (l : List (Nat × α)) (k : Nat) :
    aget (l.map fun x => (x.1, f x.2)) k = (aget l k).map f := by
  induction l with
  | nil => rfl
  | cons x xs ih =>
    obtain ⟨a, b⟩ := x
    rw [List.map_cons, aget_cons, aget_cons, ih]
    split <;> rfl

theorem mem_of_aget {α : Type} (l : List (Nat × α)) (k : Nat) (v : α) (h : aget l k = some v) : (k, v) ∈ l := by
  induction l with
  | nil => cases h
  | cons x xs ih =>
    obtain ⟨a, b⟩ := x
    rw [aget_cons] at h
    split at h
    · rename_i hk
      cases h; rw [hk]; exact List.mem_cons_self
    · exact List.mem_cons_of_mem _ (ih h)

theorem aget_eq_none_iff {α : Type} (l : List (Nat × α)) (k : Nat) : aget l k = none ↔ k ∉ l.map (·.1) := by
  induction l with
  | nil => exact ⟨fun _ h => (by cases h), fun _ => rfl⟩
  | cons x xs ih =>
    obtain ⟨a, b⟩ := x
    rw [aget_cons, List.map_cons, List.mem_cons, not_or]
    split
    · rename_i hk
      exact ⟨fun h => (by cases h), fun h => absurd hk h.1⟩
    · rename_i hk
      exact ⟨fun h => ⟨hk, ih.mp h⟩, fun h => ih.mpr h.2⟩

theorem aget_none_of_not_mem {α : Type} (l : List (Nat × α)) (k : Nat) (h : k ∉ l.map (·.1)) : aget l k = none :=
  (aget_eq_none_iff l k).mpr h

theorem mem_keys_of_aget {α : Type} (l : List (Nat × α)) (k : Nat) (v : α) (h : aget l k = some v) : k ∈ l.map (·.1) :=
  List.mem_map_of_mem (f := (·.1)) (mem_of_aget l k v h)

theorem aget_isSome_iff {α : Type} (l : List (Nat × α)) (k : Nat) : (aget l k).isSome = true ↔ k ∈ l.map (·.1) := by
  rw [← Option.ne_none_iff_isSome, Ne, aget_eq_none_iff, Decidable.not_not]

theorem aget_of_mem_nodup {α : Type} (l : List (Nat × α)) (k : Nat) (v : α)
    (hn : (l.map (·.1)).Nodup) (hm : (k, v) ∈ l) : aget l k = some v := by
  induction l with
  | nil => cases hm
  | cons x xs ih =>
    obtain ⟨a, b⟩ := x
    rw [List.map_cons, List.nodup_cons] at hn
    rw [aget_cons]
    rcases List.mem_cons.mp hm with h | h
    · cases h; rw [if_pos rfl]
    · rw [if_neg, ih hn.2 h]
      intro hk
      exact hn.1 (by rw [← hk]; exact List.mem_map_of_mem (f := (·.1)) h)

theorem mem_unique {α : Type} (l : List (Nat × α)) (hn : (l.map (·.1)).Nodup) (k : Nat) (a b : α)
    (ha : (k, a) ∈ l) (hb : (k, b) ∈ l) : a = b :=
  Option.some.inj ((aget_of_mem_nodup l k a hn ha).symm.trans (aget_of_mem_nodup l k b hn hb))

theorem mem_aset {α : Type} (l : List (Nat × α)) (k : Nat) (v : α) (x : Nat × α) :
    x ∈ aset l k v ↔ x = (k, v) ∨ (x ∈ l ∧ x.1 ≠ k) := by
  unfold aset
  rw [List.mem_cons, List.mem_filter, decide_eq_true_eq]

theorem mem_adel {α : Type} (l : List (Nat × α)) (k : Nat) (x : Nat × α) :
    x ∈ adel l k ↔ x ∈ l ∧ x.1 ≠ k := by
  unfold adel
  rw [List.mem_filter, decide_eq_true_eq]

theorem mem_map_fst_adel {α : Type} (l : List (Nat × α)) (k : Nat) (e : Nat) :
    e ∈ (adel l k).map (·.1) ↔ e ∈ l.map (·.1) ∧ e ≠ k := by
  simp only [List.mem_map, mem_adel]
  constructor
  · rintro ⟨x, ⟨hx, hne⟩, rfl⟩; exact ⟨⟨x, hx, rfl⟩, hne⟩
  · rintro ⟨⟨x, hx, rfl⟩, hne⟩; exact ⟨x, ⟨hx, hne⟩, rfl⟩

theorem mem_map_fst_aset {α : Type} (l : List (Nat × α)) (k : Nat) (v : α) (e : Nat) :
    e ∈ (aset l k v).map (·.1) ↔ e = k ∨ e ∈ l.map (·.1) := by
  show e ∈ ((k, v) :: adel l k).map (·.1) ↔ _
  rw [List.map_cons, List.mem_cons, mem_map_fst_adel]
  by_cases h : e = k
  · exact ⟨fun _ => Or.inl h, fun _ => Or.inl h⟩
  · exact ⟨fun h' => h'.imp id And.left, fun h' => h'.imp id fun hm => ⟨hm, h⟩⟩

theorem nodup_adel {α : Type} (l : List (Nat × α)) (k : Nat) (h : (l.map (·.1)).Nodup) :
    ((adel l k).map (·.1)).Nodup :=
  (List.filter_sublist.map _).nodup h

theorem nodup_aset {α : Type} (l : List (Nat × α)) (k : Nat) (v : α) (h : (l.map (·.1)).Nodup) :
    ((aset l k v).map (·.1)).Nodup := by
  show (((k, v) :: adel l k).map (·.1)).Nodup
  rw [List.map_cons, List.nodup_cons, mem_map_fst_adel]
  exact ⟨fun hm => hm.2 rfl, nodup_adel l k h⟩

theorem aget_filter_snd {α : Type} (p : α → Bool) (l : List (Nat × α)) (k : Nat) (hn : (l.map (·.1)).Nodup) :
    aget (l.filter fun x => p x.2) k = (aget l k).filter p := by
  induction l with
  | nil => rfl
  | cons x xs ih =>
    obtain ⟨a, b⟩ := x
    rw [List.map_cons, List.nodup_cons] at hn
    rw [List.filter_cons, aget_cons]
    by_cases hk : k = a
    · subst hk
      rw [if_pos rfl]
      by_cases hp : p b = true
      · rw [if_pos hp, aget_cons, if_pos rfl, Option.filter, if_pos hp]
      · rw [if_neg hp, ih hn.2, aget_none_of_not_mem _ _ hn.1, Option.filter, if_neg hp]
        rfl
    · rw [if_neg hk]
      split
      · rw [aget_cons, if_neg hk, ih hn.2]
      · exact ih hn.2

theorem aget_filterMap {α β : Type} (f : Nat × α → Option (Nat × β)) (hf : ∀ x y, f x = some y → y.1 = x.1)
    (l : List (Nat × α)) (k : Nat) (hn : (l.map (·.1)).Nodup) :
    aget (l.filterMap f) k = (aget l k).bind fun v => (f (k, v)).map (·.2) := by
  induction l with
  | nil => rfl
  | cons x xs ih =>
    obtain ⟨a, b⟩ := x
    rw [List.map_cons, List.nodup_cons] at hn
    rw [List.filterMap_cons, aget_cons]
    by_cases hk : k = a
    · subst hk
      rw [if_pos rfl, Option.bind_some]
      cases hfx : f (k, b) with
      | none => rw [ih hn.2, aget_none_of_not_mem _ _ hn.1]; rfl
      | some y =>
        obtain ⟨y1, y2⟩ := y
        cases hf _ _ hfx
        exact aget_cons _ _ _ _ |>.trans (if_pos rfl)
    · rw [if_neg hk]
      cases hfx : f (a, b) with
      | none => exact ih hn.2
      | some y =>
        obtain ⟨y1, y2⟩ := y
        cases hf _ _ hfx
        exact (aget_cons _ _ _ _).trans ((if_neg hk).trans (ih hn.2))

theorem mem_map_fst_foldl_adel {α : Type} (L : List Nat) (l : List (Nat × α)) (e : Nat) :
    e ∈ (L.foldl adel l).map (·.1) ↔ e ∈ l.map (·.1) ∧ e ∉ L := by
  induction L generalizing l with
  | nil => exact ⟨fun h => ⟨h, List.not_mem_nil⟩, And.left⟩
  | cons x xs ih => rw [List.foldl_cons, ih, mem_map_fst_adel, List.mem_cons, not_or, and_assoc]

theorem mem_map_fst_foldl_aset {α : Type} (v : α) (L : List Nat) (l : List (Nat × α)) (e : Nat) :
    e ∈ (L.foldl (fun mt k => aset mt k v) l).map (·.1) ↔ e ∈ l.map (·.1) ∨ e ∈ L := by
  induction L generalizing l with
  | nil => exact ⟨Or.inl, fun h => h.resolve_right List.not_mem_nil⟩
  | cons x xs ih => rw [List.foldl_cons, ih, mem_map_fst_aset, List.mem_cons, or_comm (a := e = x), or_assoc]

theorem mem_keys_foldl_aset {α : Type} (k : Nat) (ws cs : List (Nat × α)) :
    k ∈ (ws.foldl (fun cs w => aset cs w.1 w.2) cs).map (·.1) ↔ k ∈ cs.map (·.1) ∨ k ∈ ws.map (·.1) := by
  induction ws generalizing cs with
  | nil => exact ⟨Or.inl, fun h => h.resolve_right List.not_mem_nil⟩
  | cons w ws ih =>
    rw [List.foldl_cons, ih, mem_map_fst_aset, List.map_cons, List.mem_cons, or_comm (a := k = w.1), or_assoc]

theorem aget_foldl_aset {α : Type} (k : Nat) : ∀ (ws cs : List (Nat × α)), (ws.map (·.1)).Nodup →
    aget (ws.foldl (fun cs w => aset cs w.1 w.2) cs) k = if k ∈ ws.map (·.1) then aget ws k else aget cs k := by
  intro ws
  induction ws with
  | nil => intro cs _; exact (if_neg List.not_mem_nil).symm
  | cons w ws ih =>
    intro cs hnd
    obtain ⟨k0, v0⟩ := w
    rw [List.map_cons, List.nodup_cons] at hnd
    rw [List.foldl_cons, ih _ hnd.2, aget_aset, aget_cons]
    simp only [List.map_cons, List.mem_cons]
    by_cases hk : k = k0
    · rw [if_neg (hk ▸ hnd.1), if_pos hk, if_pos (Or.inl hk), if_pos hk]
    · rw [if_neg hk, if_neg hk]
      by_cases hr : k ∈ ws.map (·.1)
      · rw [if_pos hr, if_pos (Or.inr hr)]
      · rw [if_neg hr, if_neg (fun h => h.elim hk hr)]

end Replicon.Srv
