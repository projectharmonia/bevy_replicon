import Replicon.Proofs.ClientVals
import Replicon.Proofs.RunRecords

/-!
# What a run sends arrives with the server's current value

A CHANGES record of a run's update message (for an entity the client starts to hold: the whole
entity) carries for each of its component kinds the value the server entity has now, and the client
model has exactly that value after applying the message; then the same after any history.
-/

namespace Replicon.Srv
open Replicon.Cli

/-- **One run, both sides, the values of a CHANGES record**: every record of the update message a run
sends names an entity of the world, and a well-formed receiver that applies the message has, for every
plain kind the record names, the component's current value. -/
theorem frame_update_record_values (p : Server) (hn : (p.world.map (·.1)).Nodup) (hrates : (p.rates.map (·.1)).Nodup)
    (thisRun : Nat) (cl : Cli) (hmap : cl.mappings = []) (c : Client) (wf : WF c)
    (u : Update) (hu : (runClient p thisRun cl).2.update = some u) (r : MsgEnt) (hr : r ∈ u.changes) :
    ∃ ent, (r.ent, ent) ∈ p.world ∧
      ∀ k, k ∈ r.comps.map (·.1) → c.entityComps.contains k = false →
        ∃ rt comp, (k, rt, comp) ∈ present p ent ∧ valOn (applyUpdate c u) r.ent k = some comp.val := by
  obtain rfl := runClient_update_some hu
  obtain ⟨e, ent, m, hw, hmk, hto⟩ := (mem_records p _ _ EntOut.toUpdate r).mp hr
  have ro := collect_record_values p hrates _ _ e ent m r (Or.inl hto)
  obtain rfl := ro.entity
  refine ⟨ent, hw, fun k hk hplain => ?_⟩
  rw [applyUpdate_record_vals c _ wf hmap r.ent r hr rfl
    (record_unique p hn _ _ EntOut.toUpdate (toUpdate_ent p _ _) r.ent ent m hw hmk r hto) ro.nodup k hk hplain]
  exact ro.aget k hk

/-- **One frame, both sides, values of a newly held entity**: an entity the server starts to track
for the client in this frame (spawned, became visible, or the client was just authorized) arrives
in an update message, and the receiver then has the server's current value of every plain
replicated component of it. -/
theorem frame_new_entity_values (p : Server) (sinv : SyncInv p) (hrm : RemovalsMarked p)
    (hrates : (p.rates.map (·.1)).Nodup)
    (x : Nat × Cli) (hx : x ∈ p.clients) (hmap : x.2.mappings = [])
    (c : Client) (wf : WF c) (hh : ∀ se, held c se ↔ se ∈ keys x.2)
    (e : Nat) (hnew : e ∉ keys (runCl1 p x.2)) (hb : e ∈ runBumped p (p.now + 1) x.2)
    (ent : SEnt) (hw : (e, ent) ∈ p.world) :
    ∃ u, (runClient p (p.now + 1) x.2).2.update = some u ∧
      ∀ k r comp, (k, r, comp) ∈ present p ent → c.entityComps.contains k = false →
        valOn (applyUpdate c u) e k = some comp.val := by
  obtain ⟨ent', m, h1, h2, h3⟩ := (mem_runBumped p (p.now + 1) x.2 e).mp hb
  obtain rfl := mem_unique _ sinv.worldNodup e ent ent' hw h1
  -- an entity the client has no tick for is sent whole, in a CHANGES record
  have hwhole := collect_unknown_whole p (p.now + 1) (runCl1 p x.2) e ent m
    (collect_bump_visible p (p.now + 1) _ e ent m h3) (aget_none_of_not_mem _ _ hnew)
  obtain ⟨u, hu, hrec⟩ := update_of_record p x.2 e ent m hw h2 _ (by rw [hwhole])
  refine ⟨u, hu, fun k r comp hp hplain => ?_⟩
  obtain ⟨ent0, hw0, hv0⟩ := frame_update_record_values p sinv.worldNodup hrates _ x.2 hmap c wf u hu _ hrec
  obtain rfl := mem_unique _ sinv.worldNodup e ent ent0 hw hw0
  obtain ⟨rt, comp', hp', hval⟩ := hv0 k (List.mem_map.mpr ⟨_, List.mem_map_of_mem hp, rfl⟩) hplain
  obtain ⟨_, rfl⟩ := Prod.mk.inj (mem_unique _ (present_keys_nodup p ent hrates) k _ _ hp' hp)
  exact hval

end Replicon.Srv

namespace Replicon.Joint
open Replicon.Srv Replicon.Cli

/-- `frame_new_entity_values` in the next frame after any history, for the client model that was fed
the session's update messages: `C07_history_complete_state_values`, `C08_history_gained_entity_values` -/
theorem history_new_entity_values (s0 : Server) (hw : s0.world = []) (hc0 : s0.clients = []) (hb : s0.removalBuf = [])
    (hrates : (s0.rates.map (·.1)).Nodup)
    (ops : List Op) (hl : Legal2 { srv := s0 } ops) (ticked : Bool) (ms : Nat)
    (hr : (run { srv := s0 } ops).1.srv.running = true)
    (z : Nat × Cli) (hz : z ∈ (run { srv := s0 } ops).1.srv.clients)
    (e : Nat)
    (hnew : e ∉ keys (runCl1 (preRun (run { srv := s0 } ops).1.srv ticked ms) (preG (run { srv := s0 } ops).1.srv ms z.2)))
    (hbump : e ∈ runBumped (preRun (run { srv := s0 } ops).1.srv ticked ms)
      ((preRun (run { srv := s0 } ops).1.srv ticked ms).now + 1) (preG (run { srv := s0 } ops).1.srv ms z.2))
    (ent : SEnt) (hwld : (e, ent) ∈ (run { srv := s0 } ops).1.srv.world) :
    ∃ u, (runClient (preRun (run { srv := s0 } ops).1.srv ticked ms)
        ((preRun (run { srv := s0 } ops).1.srv ticked ms).now + 1) (preG (run { srv := s0 } ops).1.srv ms z.2)).2.update = some u ∧
      ∀ k r comp, (k, r, comp) ∈ present (run { srv := s0 } ops).1.srv ent →
        (replay ((runLog { srv := s0 } (fun _ => []) ops).2 z.1)).entityComps.contains k = false →
        valOn (applyUpdate (replay ((runLog { srv := s0 } (fun _ => []) ops).2 z.1)) u) e k = some comp.val := by
  have inv := sess_history s0 hw hc0 hb ops hl
  have nx := sess_next_run _ _ inv ticked ms hr z hz
  obtain ⟨u, hu, hv⟩ := frame_new_entity_values _ nx.sync nx.rem ((nx.rates.trans (run_rates ops _)) ▸ hrates) _ nx.mem
    nx.mappings _ nx.wf nx.held e hnew hbump ent (nx.world ▸ hwld)
  exact ⟨u, hu, fun k r comp hp => hv k r comp (by rw [present_preRun]; exact hp)⟩

end Replicon.Joint
