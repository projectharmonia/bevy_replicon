import Replicon.Proofs.ClientView
/-
Which server entities the client holds, through `apply_update_message`: per record, the `marked`
field of the statement about `viewOf` in `Proofs/ClientView.lean`; per message, the sections one
after the other (`applyUpdate_eq`), which is how the statements that count records go
(`applyUpdate_held`, and `applyUpdate_kinds`, `applyUpdate_record_vals` further on), and the induction
over the records (`applyUpdate_induct`) for what every record keeps (`applyUpdate_wf`, and
`applyUpdate_twoWay`, `applyUpdate_vals_other`, `applyUpdate_unnamed` further on).
-/
namespace Replicon.Cli
open Replicon Replicon.Srv

/-- Well-formedness kept, the same server entities held (what a mutate message does, at the level of entities). -/
def Keeps (c c' : Client) : Prop :=
  WF c' ∧ (∀ se, held c' se ↔ held c se) ∧
  (∀ ce ent, aget c.world ce = some ent → ∃ ent', aget c'.world ce = some ent' ∧ ent'.marked = ent.marked) ∧
  (∀ se ce, aget c.s2c se = some ce → aget c'.s2c se = some ce)

theorem Keeps.wf {c c' : Client} (h : Keeps c c') : WF c' := h.1
theorem Keeps.holds {c c' : Client} (h : Keeps c c') (se : Nat) : held c' se ↔ held c se := h.2.1 se
theorem Keeps.world {c c' : Client} (h : Keeps c c') (ce : Nat) (ent : CEnt) (hw : aget c.world ce = some ent) :
    ∃ ent', aget c'.world ce = some ent' ∧ ent'.marked = ent.marked := h.2.2.1 ce ent hw
theorem Keeps.mapped {c c' : Client} (h : Keeps c c') (se ce : Nat) (hs : aget c.s2c se = some ce) :
    aget c'.s2c se = some ce := h.2.2.2 se ce hs

theorem Keeps.refl (c : Client) (wf : WF c) : Keeps c c :=
  ⟨wf, fun _ => Iff.rfl, fun _ ent h => ⟨ent, h, rfl⟩, fun _ _ h => h⟩

theorem Keeps.trans {a b c : Client} (h1 : Keeps a b) (h2 : Keeps b c) : Keeps a c := by
  refine ⟨h2.wf, fun se => (h2.holds se).trans (h1.holds se), ?_, fun se ce h => h2.mapped se ce (h1.mapped se ce h)⟩
  intro ce ent h
  obtain ⟨e1, g1, m1⟩ := h1.world ce ent h
  obtain ⟨e2, g2, m2⟩ := h2.world ce e1 g1
  exact ⟨e2, g2, m2.trans m1⟩

theorem Ext.keeps {c c' : Client} (h : Ext c c') (wf : WF c) : Keeps c c' :=
  ⟨h.wf, h.held, h.world, h.mapped wf⟩

theorem getMapped_keeps (c : Client) (se : Nat) (wf : WF c) : Keeps c (getMapped c se).1 :=
  (getMapped_effect c se wf).1.keeps wf

theorem confirm_keeps (c : Client) (ce t : Nat) (wf : WF c) : Keeps c (confirm c ce t) :=
  (confirm_effect c ce t wf).1.keeps wf

theorem writeComps_keeps (ce : Nat) (comps : List (Nat × Nat)) : ∀ (c : Client), WF c → Keeps c (writeComps c ce comps) :=
  fun c wf => (writeComps_ext ce comps c wf).keeps wf

theorem applyChange_spec (tick : Nat) (c : Client) (m : MsgEnt) (wf : WF c) :
    ∃ c', applyChange tick c m = some c' ∧ WF c' ∧ ∀ se, held c' se ↔ held c se ∨ se = m.ent := by
  obtain ⟨c', h1, m1, _, _, v⟩ := applyChange_effect tick c m wf
  refine ⟨c', h1, m1.wf, fun se => ?_⟩
  rw [held_iff_view, held_iff_view, v se]
  split
  · rename_i he; exact ⟨fun _ => Or.inr he, fun _ => rfl⟩
  · rename_i he; exact ⟨Or.inl, fun h => h.elim id (fun h => absurd h he)⟩

theorem applyRemoval_spec (tick : Nat) (c : Client) (r : Nat × List Nat) (wf : WF c) :
    ∃ c', applyRemoval tick c r = some c' ∧ WF c' ∧
      (∀ se, held c se → held c' se) ∧ (∀ se, held c' se → held c se ∨ se = r.1) := by
  obtain ⟨c', h1, m1, v⟩ := applyRemoval_effect tick c r wf
  refine ⟨c', h1, m1.wf, fun se h => ?_, fun se h => ?_⟩
  · rw [held_iff_view] at h ⊢
    rw [v se]
    split
    · exact (Bool.or_eq_true _ _).mpr (Or.inl h)
    · exact h
  · rw [held_iff_view, v se] at h
    split at h
    · rename_i he; exact Or.inr he
    · exact Or.inl ((held_iff_view c se).mpr h)

theorem applyDespawn_spec (c : Client) (se : Nat) (wf : WF c) :
    WF (applyDespawn c se) ∧ ∀ se', held (applyDespawn c se) se' ↔ held c se' ∧ se' ≠ se := by
  refine ⟨applyDespawn_wf c se wf, fun se' => ?_⟩
  rw [held_iff_view, held_iff_view, viewOf_applyDespawn c se wf se']
  exact emptied_iff (·.marked = true) (fun h => nomatch h) _

theorem despawns_effect : ∀ (l : List Nat) (c : Client), WF c →
    WF (l.foldl applyDespawn c) ∧ ∀ se, viewOf (l.foldl applyDespawn c) se = if se ∈ l then {} else viewOf c se := by
  intro l
  induction l with
  | nil => exact fun c wf => ⟨wf, fun se => (if_neg List.not_mem_nil).symm⟩
  | cons x xs ih =>
    intro c wf
    obtain ⟨w2, v2⟩ := ih _ (applyDespawn_wf c x wf)
    refine ⟨w2, fun se => ?_⟩
    rw [List.foldl_cons, v2 se, viewOf_applyDespawn c x wf se]
    by_cases hx : se = x
    · rw [if_pos hx, if_pos (List.mem_cons.mpr (Or.inl hx))]; split <;> rfl
    · rw [if_neg hx]
      by_cases hxs : se ∈ xs
      · rw [if_pos hxs, if_pos (List.mem_cons_of_mem _ hxs)]
      · rw [if_neg hxs, if_neg (fun h => (List.mem_cons.mp h).elim hx hxs)]

theorem despawns_spec (l : List Nat) (c : Client) (wf : WF c) :
    WF (l.foldl applyDespawn c) ∧ ∀ se, held (l.foldl applyDespawn c) se ↔ held c se ∧ se ∉ l := by
  obtain ⟨w, v⟩ := despawns_effect l c wf
  refine ⟨w, fun se => ?_⟩
  rw [held_iff_view, held_iff_view, v se]
  exact emptied_iff (·.marked = true) (fun h => nomatch h) _

theorem removals_spec (tick : Nat) : ∀ (l : List (Nat × List Nat)) (c : Client), WF c →
    (foldOpt (applyRemoval tick) (c, false) l).2 = false ∧ WF (foldOpt (applyRemoval tick) (c, false) l).1 ∧
    (∀ se, held c se → held (foldOpt (applyRemoval tick) (c, false) l).1 se) ∧
    (∀ se, held (foldOpt (applyRemoval tick) (c, false) l).1 se → held c se ∨ se ∈ l.map (·.1)) := by
  intro l
  induction l with
  | nil => intro c wf; exact ⟨rfl, wf, fun _ h => h, fun _ h => Or.inl h⟩
  | cons x xs ih =>
    intro c wf
    obtain ⟨c1, e1, w1, a1, a2⟩ := applyRemoval_spec tick c x wf
    rw [foldOpt_cons_some xs e1]
    obtain ⟨i1, i2, i3, i4⟩ := ih c1 w1
    refine ⟨i1, i2, fun se h => i3 se (a1 se h), fun se h => ?_⟩
    rw [List.map_cons, List.mem_cons]
    rcases i4 se h with h' | h'
    · exact (a2 se h').imp id Or.inl
    · exact Or.inr (Or.inr h')

def afterDespawns (c : Client) (u : Update) : Client := u.despawns.foldl applyDespawn { c with updateTick := u.tick }

theorem wf_afterDespawns (c : Client) (u : Update) (wf : WF c) : WF (afterDespawns c u) :=
  (despawns_effect u.despawns _ (wf_setTick c u.tick wf)).1

theorem viewOf_afterDespawns (c : Client) (u : Update) (wf : WF c) (se : Nat) :
    viewOf (afterDespawns c u) se = if se ∈ u.despawns then {} else viewOf c se :=
  (despawns_effect u.despawns _ (wf_setTick c u.tick wf)).2 se

def afterRemovals (c : Client) (u : Update) : Client :=
  (foldOpt (applyRemoval u.tick) (afterDespawns c u, false) u.removals).1

theorem wf_afterRemovals (c : Client) (u : Update) (wf : WF c) : WF (afterRemovals c u) :=
  (removals_spec u.tick u.removals _ (wf_afterDespawns c u wf)).2.1

/-- no REMOVALS record fails on a well-formed client, so the CHANGES section starts from `afterRemovals` -/
theorem applyUpdate_eq (c : Client) (u : Update) (wf : WF c) (hm : u.mappings = []) :
    applyUpdate c u = (foldOpt (applyChange u.tick) (afterRemovals c u, false) u.changes).1 := by
  unfold applyUpdate
  simp only [hm, List.foldl_nil]
  exact congrArg (fun st => (foldOpt (applyChange u.tick) st u.changes).1) (Prod.ext rfl (removals_spec u.tick u.removals _ (wf_afterDespawns c u wf)).1)

theorem applyUpdate_upto_changes (u : Update) (hm : u.mappings = []) (P : Client → Prop)
    (ht : ∀ c, P c → P { c with updateTick := u.tick })
    (hd : ∀ c, ∀ se ∈ u.despawns, WF c → P c → P (applyDespawn c se))
    (hr : ∀ c, ∀ r ∈ u.removals, ∀ c', WF c → P c → applyRemoval u.tick c r = some c' → P c')
    (c : Client) (wf : WF c) (h : P c) :
    ∃ c2, WF c2 ∧ P c2 ∧ applyUpdate c u = (foldOpt (applyChange u.tick) (c2, false) u.changes).1 := by
  have h1 : ∀ (l : List Nat), (∀ se ∈ l, se ∈ u.despawns) → ∀ c, WF c ∧ P c →
      WF (l.foldl applyDespawn c) ∧ P (l.foldl applyDespawn c) := by
    intro l
    induction l with
    | nil => exact fun _ _ h => h
    | cons x xs ih =>
      exact fun hl c h => ih (fun se hs => hl se (List.mem_cons_of_mem _ hs)) _
        ⟨applyDespawn_wf c x h.1, hd c x (hl x List.mem_cons_self) h.1 h.2⟩
  have h2 := foldOpt_inv (applyRemoval u.tick) (fun c => WF c ∧ P c) u.removals (fun c r hrm hp => by
    obtain ⟨c', e, m, _⟩ := applyRemoval_effect u.tick c r hp.1
    exact ⟨c', e, m.wf, hr c r hrm c' hp.1 hp.2 e⟩) _
    (h1 u.despawns (fun _ h => h) { c with updateTick := u.tick } ⟨wf_setTick c u.tick wf, ht c h⟩)
  exact ⟨afterRemovals c u, h2.2.1, h2.2.2, applyUpdate_eq c u wf hm⟩

theorem applyUpdate_induct (u : Update) (hm : u.mappings = []) (P : Client → Prop)
    (ht : ∀ c, P c → P { c with updateTick := u.tick })
    (hd : ∀ c, ∀ se ∈ u.despawns, WF c → P c → P (applyDespawn c se))
    (hr : ∀ c, ∀ r ∈ u.removals, ∀ c', WF c → P c → applyRemoval u.tick c r = some c' → P c')
    (hc : ∀ c, ∀ m ∈ u.changes, ∀ c', WF c → P c → applyChange u.tick c m = some c' → P c')
    (c : Client) (wf : WF c) (h : P c) : WF (applyUpdate c u) ∧ P (applyUpdate c u) := by
  obtain ⟨c2, w2, h2, he⟩ := applyUpdate_upto_changes u hm P ht hd hr c wf h
  rw [he]
  exact (foldOpt_inv (applyChange u.tick) (fun c => WF c ∧ P c) u.changes (fun c m hmm hp => by
    obtain ⟨c', e, m1, _⟩ := applyChange_effect u.tick c m hp.1
    exact ⟨c', e, m1.wf, hc c m hmm c' hp.1 hp.2 e⟩) c2 ⟨w2, h2⟩).2

theorem applyUpdate_wf (c : Client) (u : Update) (wf : WF c) (hm : u.mappings = []) : WF (applyUpdate c u) :=
  (applyUpdate_induct u hm (fun _ => True) (fun _ _ => trivial) (fun _ _ _ _ _ => trivial)
    (fun _ _ _ _ _ _ _ => trivial) (fun _ _ _ _ _ _ _ => trivial) c wf trivial).1

/-- `hm` and `hr` together are `Srv.MsgOk c u` (`Proofs/ClientSync.lean`).  `hr` is what the server
sends: `Srv.collectEntity` writes a CHANGES record for every entity with buffered removals that the
client has no tick for -/
theorem applyUpdate_held (c : Client) (u : Update) (wf : WF c) (hm : u.mappings = [])
    (hr : ∀ r ∈ u.removals, (held c r.1 ∧ r.1 ∉ u.despawns) ∨ r.1 ∈ u.changes.map (·.ent)) :
    WF (applyUpdate c u) ∧
    ∀ se, held (applyUpdate c u) se ↔ (held c se ∧ se ∉ u.despawns) ∨ se ∈ u.changes.map (·.ent) := by
  refine ⟨applyUpdate_wf c u wf hm, fun se => ?_⟩
  rw [applyUpdate_eq c u wf hm, foldOpt_or (applyChange u.tick) WF (held · se) (fun m => se = m.ent) (fun c m w => by
    obtain ⟨c', e, w', h⟩ := applyChange_spec u.tick c m w
    exact ⟨c', e, w', h se⟩) u.changes _ (wf_afterRemovals c u wf)]
  -- what REMOVALS adds to the held entities is held after DESPAWNS anyway, or has a CHANGES record
  have h1 : held (afterDespawns c u) se ↔ held c se ∧ se ∉ u.despawns :=
    (despawns_spec u.despawns _ (wf_setTick c u.tick wf)).2 se
  have hents : (∃ m ∈ u.changes, se = m.ent) ↔ se ∈ u.changes.map (·.ent) :=
    ⟨fun ⟨m, hm, e⟩ => List.mem_map.mpr ⟨m, hm, e.symm⟩, fun h => (List.mem_map.mp h).elim fun m hm => ⟨m, hm.1, hm.2.symm⟩⟩
  rw [hents]
  obtain ⟨-, -, keep, from_⟩ := removals_spec u.tick u.removals _ (wf_afterDespawns c u wf)
  constructor
  · rintro (h | h)
    · rcases from_ se h with h' | h'
      · exact Or.inl (h1.mp h')
      · obtain ⟨r, hrm, rfl⟩ := List.mem_map.mp h'
        exact hr r hrm
    · exact Or.inr h
  · exact fun h => h.imp (fun h => keep se (h1.mpr h)) id

end Replicon.Cli
