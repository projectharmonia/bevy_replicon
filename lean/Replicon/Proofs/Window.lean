import Replicon.Proofs.Tick
/-
`ConfirmHistory` and `ServerMutateTicks` both keep 64 slots for the ticks up to the last one,
slot `i` describing tick `L - i`, and both specifications in `Model/HistorySpec.lean` describe a
record per absolute tick.  What the two refinements share is the index arithmetic between the
two views; it is done here once, for any type of slot.
-/
namespace Replicon.Window
variable {α : Type}

/-- Slot `i` of a window ending at tick `L` over the record `G`; `dflt` before tick 0. -/
def cell (G : Nat → α) (dflt : α) (L i : Nat) : α := if i ≤ L then G (L - i) else dflt

theorem cell_of_add {G : Nat → α} {dflt : α} {L i q : Nat} (h : q + i = L) : cell G dflt L i = G q := by
  subst h
  unfold cell
  rw [if_pos (Nat.le_add_left i q), Nat.add_sub_cancel]

theorem cell_update {G G' : Nat → α} {dflt : α} {L t : Nat} (hG : ∀ q, q ≠ t → G' q = G q) (ht : t ≤ L)
    (i : Nat) : cell G' dflt L i = if i = L - t then G' t else cell G dflt L i := by
  unfold cell
  by_cases h : i = L - t
  · rw [if_pos h, h, if_pos (Nat.sub_le L t), Nat.sub_sub_self ht]
  · rw [if_neg h]
    by_cases hi : i ≤ L
    · rw [if_pos hi, if_pos hi, hG _ fun e => h (by rw [← e, Nat.sub_sub_self hi])]
    · rw [if_neg hi, if_neg hi]

theorem cell_decide (p : Nat → Prop) [DecidablePred p] (L i : Nat) :
    cell (fun q => decide (p q)) false L i = (decide (i ≤ L) && decide (p (L - i))) := by
  unfold cell
  by_cases h : i ≤ L
  · rw [if_pos h, decide_eq_true h, Bool.true_and]
  · rw [if_neg h, decide_eq_false h, Bool.false_and]

theorem cell_advance {G G' : Nat → α} {dflt : α} {L t : Nat} (hG : ∀ q, q ≠ t → G' q = G q)
    (hblank : ∀ q, L < q → G q = dflt) (hLt : L < t) (i : Nat) (hi : i ≠ 0) :
    cell G' dflt t i = if i < t - L then dflt else cell G dflt L (i - (t - L)) := by
  obtain ⟨d, rfl⟩ := Nat.exists_eq_add_of_lt hLt
  rw [Nat.add_assoc, Nat.add_sub_cancel_left]
  unfold cell
  by_cases hd : i < d + 1
  · rw [if_pos hd, if_pos (by omega), hG _ (by omega), hblank _ (by omega)]
  · obtain ⟨j, rfl⟩ := Nat.exists_eq_add_of_le (Nat.le_of_not_lt hd)
    rw [if_neg hd, Nat.add_sub_cancel_left, Nat.add_comm L, Nat.add_sub_add_left]
    by_cases h : j ≤ L
    · rw [if_pos h, if_pos (Nat.add_le_add_left h _), hG _ (by omega)]
    · rw [if_neg h, if_neg (by omega)]

/-- The answer of both specifications to a membership query. -/
def has (L : Nat) (P : Nat → Bool) (q : Nat) : Bool := decide (q ≤ L) && (decide (L - q ≥ 64) || P q)

theorem has_iff {L : Nat} {P : Nat → Bool} {q : Nat} : has L P q = true ↔ q ≤ L ∧ (q + 64 ≤ L ∨ P q = true) := by
  unfold has
  rw [Bool.and_eq_true, Bool.or_eq_true, decide_eq_true_iff, decide_eq_true_iff]
  exact and_congr_right fun hq => or_congr_left (Nat.le_sub_iff_add_le' hq)

theorem has_of_gt {L : Nat} {P : Nat → Bool} {q : Nat} (hq : L < q) : has L P q = false :=
  Bool.eq_false_iff.mpr fun h => Nat.not_le.mpr hq (has_iff.mp h).1

theorem has_of_le {L q : Nat} {P view : Nat → Bool} (hview : ∀ q i, q + i = L → i < 64 → view i = P q)
    (hq : q ≤ L) : has L P q = (decide (L - q ≥ 64) || view (L - q)) := by
  unfold has
  rw [decide_eq_true hq, Bool.true_and]
  by_cases hw : L - q ≥ 64
  · rw [decide_eq_true hw, Bool.true_or, Bool.true_or]
  · rw [hview q (L - q) (Nat.add_sub_cancel' hq) (Nat.lt_of_not_le hw)]

/-! A range query `[a, b]`: nothing if it starts after `L`, something if it starts before the
window, else answered from the slots `view`. -/

theorem not_exists_has {L a b : Nat} {P : Nat → Bool} (hgt : L < a) :
    ¬ ∃ q, a ≤ q ∧ q ≤ b ∧ has L P q = true :=
  fun ⟨_, h1, _, h3⟩ => Nat.not_le.mpr hgt (Nat.le_trans h1 (has_iff.mp h3).1)

theorem exists_has_old {L a b : Nat} {P : Nat → Bool} (hab : a ≤ b) (hold : a + 64 ≤ L) :
    ∃ q, a ≤ q ∧ q ≤ b ∧ has L P q = true :=
  ⟨a, Nat.le_refl a, hab, has_iff.mpr ⟨Nat.le_trans (Nat.le_add_right a 64) hold, Or.inl hold⟩⟩

theorem exists_has_window {L a b : Nat} {P view : Nat → Bool}
    (hview : ∀ q i, q + i = L → i < 64 → view i = P q) (hle : a ≤ L) (hw : L < a + 64) :
    (∃ q, a ≤ q ∧ q ≤ b ∧ has L P q = true) ↔ ∃ i, L - min b L ≤ i ∧ i ≤ L - a ∧ view i = true := by
  constructor
  · rintro ⟨q, h1, h2, h3⟩
    obtain ⟨hq, h3⟩ := has_iff.mp h3
    have hqw : L < q + 64 := Nat.lt_of_lt_of_le hw (Nat.add_le_add_right h1 64)
    refine ⟨L - q, Nat.sub_le_sub_left (Nat.le_min.mpr ⟨h2, hq⟩) L, Nat.sub_le_sub_left h1 L, ?_⟩
    rw [hview q (L - q) (Nat.add_sub_cancel' hq) (Nat.sub_lt_left_of_lt_add hq hqw)]
    exact h3.resolve_left (Nat.not_le.mpr hqw)
  · rintro ⟨i, h1, h2, h3⟩
    have hi : L - i + i = L := Nat.sub_add_cancel (Nat.le_trans h2 (Nat.sub_le L a))
    generalize L - i = q at hi
    obtain ⟨h4, h5, h6⟩ : a ≤ q ∧ q ≤ b ∧ i < 64 := by omega
    exact ⟨q, h4, h5, has_iff.mpr ⟨Nat.le.intro hi, Or.inr ((hview q i hi h6).symm.trans h3)⟩⟩

/-- Ticks `a ≤ e ≤ L` inside the window occupy the slots `L - e, …, L - a`. -/
theorem slots_of_ticks {a e L : Nat} (h1 : a ≤ e) (h2 : e ≤ L) (hw : L < a + 64) :
    e - a < 64 ∧ L - e ≤ L - a ∧ L - a < 64 ∧ L - e + (e - a + 1) = L - a + 1 := by
  omega

end Replicon.Window
