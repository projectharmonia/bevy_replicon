import Replicon.Proofs.ClientKinds
/-
The client's entity map is a consistent two-way map: `client_to_server` is the inverse of
`server_to_client`, through every update message.
-/
namespace Replicon.Cli
open Replicon Replicon.Srv

theorem applyUpdate_twoWay (c : Client) (u : Update) (wf : WF c) (tw : TwoWay c) (hm : u.mappings = []) :
    TwoWay (applyUpdate c u) :=
  (applyUpdate_induct u hm TwoWay (fun _ h => h)
    (fun c se _ wf h => applyDespawn_twoWay c se wf h)
    (fun c r _ _ wf h e => (of_eq_some (applyRemoval_effect u.tick c r wf) e).1.twoWay h)
    (fun c m _ _ wf h e => (of_eq_some (applyChange_effect u.tick c m wf) e).1.twoWay h) c wf tw).2

theorem replay_twoWay : ∀ (l : List Update) (c : Client), WF c → TwoWay c → Joint.logOkFrom c l →
    TwoWay (l.foldl applyUpdate c) := by
  intro l
  induction l with
  | nil => intro c _ tw _; exact tw
  | cons u us ih =>
    rintro c wf tw ⟨ok, okrest⟩
    rw [List.foldl_cons]
    exact ih _ (applyUpdate_wf c u wf ok.mappings) (applyUpdate_twoWay c u wf tw ok.mappings) okrest

theorem twoWay_fresh : TwoWay ({} : Client) := by
  intro se ce
  constructor <;> (intro h; cases h)

end Replicon.Cli

namespace Replicon.Joint
open Replicon Replicon.Srv Replicon.Cli

theorem session_twoWay (s0 : Server) (hw : s0.world = []) (hc0 : s0.clients = []) (hb : s0.removalBuf = [])
    (ops : List Op) (hl : Legal2 { srv := s0 } ops) :
    ∀ x ∈ (run { srv := s0 } ops).1.srv.clients,
      TwoWay (replay ((runLog { srv := s0 } (fun _ => []) ops).2 x.1)) := by
  intro x hx
  exact replay_twoWay _ {} wf_fresh twoWay_fresh ((sess_history s0 hw hc0 hb ops hl).cli x hx).ok

end Replicon.Joint
