/-
Two facts about core lists that the models' lists rest on.  `List.lookup` with its test as an `if`
is the computation rule under every association list (`aget`, the scene map); a list filtered by
"not in `L`" is how the models take entities or component kinds away.
-/

theorem List.lookup_cons_ite {α β : Type} [BEq α] [LawfulBEq α] [DecidableEq α] (a k : α) (b : β)
    (l : List (α × β)) : ((a, b) :: l).lookup k = if k = a then some b else l.lookup k := by
  rw [List.lookup_cons]
  split <;> rename_i h
  · rw [if_pos (beq_iff_eq.mp h)]
  · rw [if_neg fun e => by rw [beq_iff_eq.mpr e] at h; cases h]

theorem List.mem_filter_not_contains (S L : List Nat) (k : Nat) :
    k ∈ S.filter (fun k => !L.contains k) ↔ k ∈ S ∧ k ∉ L := by
  rw [List.mem_filter, Bool.not_eq_true', List.contains_eq_mem, decide_eq_false_iff_not]
