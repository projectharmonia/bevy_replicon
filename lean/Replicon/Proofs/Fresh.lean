import Replicon.Proofs.ClientView
/-
What the server model sends a client it has no state for (`runClient` on fresh `ClientTicks`),
applied by the client model at the start of a session (`applyUpdate`), leaves the client with
exactly the server's view: one perfect round of a new session, for a blacklist server with empty
despawn and removal buffers, distinct entity ids, at least one replicated entity and no entity-valued
component (`fresh_round_trip`; the client as in `SessionStart`).  The client
side is traced field by field, down to the numbers of the client entities (`Good`): the view
equations of `Proofs/ClientView.lean` do not say which client entity stands for a server entity.
In the order of the round: the server's run (`run_fresh`), the client before the message
(`SessionStart`), one CHANGES record for an entity the client does not know (`applyChange_fresh`),
the CHANGES section, one new client entity per record (`good_fold`), the round (`fresh_round_trip`).
-/
namespace Replicon.Fresh
open Replicon Replicon.Srv Replicon.Cli

/-- what a client that sees everything should hold: every replicated entity with its
replicated components and their values, in world order -/
def viewMsgs (s : Server) : List MsgEnt :=
  s.world.filterMap fun x => x.2.marker.map fun _ =>
    ({ ent := x.1, comps := (present s x.2).map fun y => (y.1, y.2.2.val) } : MsgEnt)

/-- a client the server has never sent anything to and hides nothing from -/
def freshCli : Cli := { authorized := true }

theorem fresh_visible (s : Server) (hw : s.white = false) (e : Nat) : visState s freshCli e ≠ .hidden := by
  unfold visState
  rw [hw]
  simp only [Bool.false_eq_true, if_false]
  have : cell freshCli e = {} := rfl
  rw [this]
  decide

theorem fresh_noLost (s : Server) : NoLost s.white freshCli := by
  intro e c0 h; cases h

/-- the CHANGES section for the fresh client: every replicated entity, whole (`collect_unknown_whole`),
in world order -/
theorem fresh_changes (s : Server) (thisRun : Nat) (hw : s.white = false) :
    (entityOuts s thisRun freshCli).filterMap (fun x => x.2.toUpdate) = viewMsgs s := by
  unfold entityOuts viewMsgs
  rw [List.filterMap_filterMap]
  congr 1
  funext x
  cases hm : x.2.marker with
  | none => simp only [hm, Option.map_none, Option.bind_none]
  | some m =>
    simp only [hm, Option.map_some, Option.bind_some]
    exact congrArg EntOut.toUpdate (collect_unknown_whole s thisRun freshCli x.1 x.2 m (fresh_visible s hw x.1) rfl)

theorem run_fresh (s : Server) (thisRun : Nat) (hw : s.white = false)
    (hd : s.despawnBuf = []) (hr : s.removalBuf = []) (hne : viewMsgs s ≠ []) :
    (runClient s thisRun freshCli).2.update =
      some { tick := s.tick, mappings := [], despawns := [], removals := [], changes := viewMsgs s } := by
  have hu : runUpdate s thisRun freshCli =
      { tick := s.tick, mappings := [], despawns := [], removals := [], changes := viewMsgs s } := by
    unfold runUpdate
    rw [runDespawns_idle s freshCli hd (fresh_noLost s),
      show runCl1 s freshCli = freshCli from runCl1_idle s freshCli hd (fresh_noLost s), hr,
      fresh_changes s thisRun hw]
    rfl
  -- the message is sent: it is not empty
  rw [runClient_update_eq, hu, if_neg]
  exact fun he => hne (Update.changes_of_isEmpty he)

theorem viewMsgs_ents_nodup (s : Server) (h : (s.world.map (·.1)).Nodup) : ((viewMsgs s).map (·.ent)).Nodup := by
  have : List.Sublist ((viewMsgs s).map (·.ent)) (s.world.map (·.1)) := by
    unfold viewMsgs
    induction s.world with
    | nil => exact List.Sublist.refl _
    | cons x xs ih =>
      rw [List.filterMap_cons]
      cases hm : x.2.marker with
      | none =>
        simp only [Option.map_none]
        exact ih.trans (by simp)
      | some m =>
        simp only [Option.map_some, List.map_cons]
        exact List.Sublist.cons_cons _ ih
  exact this.nodup h

/-- a client at the start of a session: nothing mapped, entity ids from `next` on unused (whatever
it still holds from earlier sessions lies below).  `[4]` is the default of `Client.entityComps` in
`Model/Client.lean`: kind 4 is the one entity-valued component kind; the records of the round must
not name it (`kv.1 ≠ 4` below), so that writing them maps no entity -/
structure SessionStart (c : Client) : Prop where
  s2c : c.s2c = []
  unused : ∀ j, c.next ≤ j → aget c.world j = none
  ecomps : c.entityComps = [4]

theorem session_start_new : SessionStart { connected := true } :=
  ⟨rfl, fun _ _ => rfl, rfl⟩

theorem session_start_after_reset (c : Client) (us : List Update) (ms : List Mutate)
    (h1 : c.lastNotDisconnected = true) (h2 : c.connected = false)
    (halloc : ∀ j, c.next ≤ j → aget c.world j = none) (hec : c.entityComps = [4]) :
    SessionStart { frame c us ms with connected := true } := by
  rw [frame_disconnected c us ms h1 h2]
  exact ⟨rfl, halloc, hec⟩

/-- the component map a record writes onto a new entity (`aget` below is `List.lookup`, by definition:
`Model/Server.lean`) -/
def assocOf (init : List (Nat × Nat)) (cs : List (Nat × Nat)) : List (Nat × Nat) :=
  cs.foldl (fun l kv => aset l kv.1 kv.2) init

theorem assocOf_get (k : Nat) (cs init : List (Nat × Nat)) (hn : (cs.map (·.1)).Nodup) :
    aget (assocOf init cs) k = (aget cs k).or (aget init k) := by
  unfold assocOf
  rw [aget_foldl_aset k cs init hn]
  cases hl : aget cs k with
  | some v => rw [if_pos (mem_keys_of_aget cs k v hl)]; rfl
  | none => rw [if_neg ((aget_eq_none_iff cs k).mp hl)]; rfl

theorem wstep_plain (ce : Nat) (c : Client) (k v : Nat) (ent0 : CEnt)
    (hk : c.entityComps.contains k = false) (hw : aget c.world ce = some ent0) :
    Cli.wstep c ce k v = { c with world := aset c.world ce { ent0 with comps := aset ent0.comps k v } } := by
  unfold Cli.wstep
  simp only [hk, Bool.false_eq_true, if_false, hw]

/-- `c'` is `c` but for the record of client entity `ce`, which is `ent` -/
structure SetEnt (c c' : Client) (ce : Nat) (ent : CEnt) : Prop where
  rest : c' = { c with world := c'.world }
  record : aget c'.world ce = some ent
  other : ∀ j, j ≠ ce → aget c'.world j = aget c.world j

theorem writeComps_plain (ce : Nat) (comps : List (Nat × Nat)) : ∀ (c : Client) (ent0 : CEnt),
    (∀ kv ∈ comps, c.entityComps.contains kv.1 = false) → aget c.world ce = some ent0 →
    SetEnt c (writeComps c ce comps) ce { ent0 with comps := assocOf ent0.comps comps } := by
  induction comps with
  | nil => intro c ent0 _ hw; exact ⟨rfl, hw, fun _ _ => rfl⟩
  | cons kv rest ih =>
    intro c ent0 hno hw
    have hk : c.entityComps.contains kv.1 = false := hno kv List.mem_cons_self
    obtain ⟨k, v⟩ := kv
    rw [writeComps_cons, wstep_plain ce c k v ent0 hk hw]
    obtain ⟨r, a, o⟩ := ih
      ({ c with world := aset c.world ce { ent0 with comps := aset ent0.comps k v } } : Client)
      { ent0 with comps := aset ent0.comps k v } (fun x hx => hno x (List.mem_cons_of_mem _ hx)) (aget_aset_same _ _ _)
    exact ⟨r, a, fun j hj => (o j hj).trans (aget_aset_other _ _ _ _ hj)⟩

/-- `c'` is `c` with one more client entity: number `n`, with record `ent`, standing for server
entity `se` -/
structure Spawned (c c' : Client) (se n : Nat) (ent : CEnt) : Prop where
  next : c'.next = n + 1
  mapped : aget c'.s2c se = some n
  s2cOther : ∀ e, e ≠ se → aget c'.s2c e = aget c.s2c e
  record : aget c'.world n = some ent
  worldOther : ∀ j, j ≠ n → aget c'.world j = aget c.world j
  ecomps : c'.entityComps = c.entityComps

theorem mapFresh_spawned (c : Client) (se : Nat) (ent : CEnt) : Spawned c (mapFresh c se ent) se c.next ent := by
  obtain ⟨fs2c, fworld, fnext, _⟩ := mapFresh_fields c se ent
  refine ⟨fnext, ?_, fun e he => ?_, ?_, fun j hj => ?_, rfl⟩
  · rw [fs2c]; exact aget_aset_same _ _ _
  · rw [fs2c]; exact aget_aset_other _ _ _ _ he
  · rw [fworld]; exact aget_aset_same _ _ _
  · rw [fworld]; exact aget_aset_other _ _ _ _ hj

/-- the new entity's record may be replaced -/
theorem Spawned.setEnt {c c1 c2 : Client} {se n : Nat} {ent ent' : CEnt} (sp : Spawned c c1 se n ent)
    (w : SetEnt c1 c2 n ent') : Spawned c c2 se n ent' := by
  have hs2c : c2.s2c = c1.s2c := by rw [w.rest]
  have hnext : c2.next = c1.next := by rw [w.rest]
  have hec : c2.entityComps = c1.entityComps := by rw [w.rest]
  exact ⟨hnext.trans sp.next, hs2c ▸ sp.mapped, fun e he => hs2c ▸ sp.s2cOther e he, w.record,
    fun j hj => (w.other j hj).trans (sp.worldOther j hj), hec.trans sp.ecomps⟩

theorem confirm_setEnt (c : Client) (ce t : Nat) (ent : CEnt) (h : aget c.world ce = some ent) :
    SetEnt c (confirm c ce t) ce { ent with hist := some t } := by
  unfold confirm
  rw [h]
  exact ⟨rfl, aget_aset_same _ _ _, fun j hj => aget_aset_other _ _ _ _ hj⟩

theorem applyChange_fresh (t : Nat) (c : Client) (m : MsgEnt) (hs : aget c.s2c m.ent = none)
    (hno : ∀ kv ∈ m.comps, c.entityComps.contains kv.1 = false) :
    ∃ c', applyChange t c m = some c' ∧
      Spawned c c' m.ent c.next { marked := true, hist := some t, comps := assocOf [] m.comps } := by
  -- `targetEntity` spawns and maps a marked entity, `confirm` sets its tick, `writeComps` its components
  have ht : targetEntity c m.ent true = .ok (mapFresh c m.ent { marked := true }, c.next) :=
    targetEntity_unmapped c m.ent true hs
  have s1 := mapFresh_spawned c m.ent { marked := true }
  have s2 := s1.setEnt (confirm_setEnt _ c.next t _ s1.record)
  have s3 := s2.setEnt (writeComps_plain c.next m.comps _ _ (by rw [s2.ecomps]; exact hno) s2.record)
  exact ⟨_, by unfold applyChange; rw [ht], s3⟩

/-- Relative to the client state `c0` the session started from (`SessionStart`): the client holds
exactly the records `done`, one new entity each, numbered in order (`have_`: the `i`-th record is
held as client entity `c0.next + i`, marked, confirmed at `t`, with the record's components), and
everything it had before is untouched. -/
structure Good (t : Nat) (c0 c : Client) (done : List MsgEnt) : Prop where
  next : c.next = c0.next + done.length
  have_ : ∀ i (h : i < done.length), aget c.s2c (done[i]).ent = some (c0.next + i) ∧
    aget c.world (c0.next + i) = some { marked := true, hist := some t, comps := assocOf [] (done[i]).comps }
  unknown : ∀ e, (∀ m ∈ done, m.ent ≠ e) → aget c.s2c e = none
  free : ∀ j, c0.next + done.length ≤ j → aget c.world j = none
  old : ∀ j, j < c0.next → aget c.world j = aget c0.world j
  ecomps : c.entityComps = [4]

theorem good_init (t : Nat) (c0 : Client) (h : SessionStart c0) : Good t c0 { c0 with updateTick := t } [] := by
  refine ⟨rfl, ?_, ?_, ?_, fun _ _ => rfl, h.ecomps⟩
  · intro i hi; exact absurd hi (Nat.not_lt_zero i)
  · intro e _; show aget c0.s2c e = none; rw [h.s2c]; rfl
  · intro j hj; exact h.unused j (by simpa using hj)

theorem good_step (t : Nat) (c0 c : Client) (done : List MsgEnt) (m : MsgEnt) (g : Good t c0 c done)
    (hnew : ∀ x ∈ done, x.ent ≠ m.ent) (hno : ∀ kv ∈ m.comps, kv.1 ≠ 4) :
    ∃ c', applyChange t c m = some c' ∧ Good t c0 c' (done ++ [m]) := by
  have hs : aget c.s2c m.ent = none := g.unknown m.ent hnew
  have hno' : ∀ kv ∈ m.comps, c.entityComps.contains kv.1 = false := by
    intro kv hkv
    rw [g.ecomps]
    simp [hno kv hkv]
  obtain ⟨c', h0, sp⟩ := applyChange_fresh t c m hs hno'
  -- the new client entity is number `c0.next + done.length`
  rw [g.next] at sp
  refine ⟨c', h0, ?_, ?_, ?_, ?_, ?_, sp.ecomps.trans g.ecomps⟩
  · rw [sp.next, List.length_append, List.length_singleton, Nat.add_assoc]
  · intro i hi
    rw [List.length_append, List.length_singleton] at hi
    by_cases hlt : i < done.length
    · rw [List.getElem_append_left hlt, sp.s2cOther _ (hnew _ (List.getElem_mem hlt)), sp.worldOther _ (by omega)]
      exact g.have_ i hlt
    · obtain rfl : i = done.length := by omega
      have hget : (done ++ [m])[done.length]'(by simp) = m := by simp
      rw [hget]
      exact ⟨sp.mapped, sp.record⟩
  · intro e he
    rw [sp.s2cOther e (fun h => he m (List.mem_append_right _ (List.mem_singleton.mpr rfl)) h.symm)]
    exact g.unknown e fun x hx => he x (List.mem_append_left _ hx)
  · intro j hj
    rw [List.length_append, List.length_singleton] at hj
    rw [sp.worldOther j (by omega)]
    exact g.free j (by omega)
  · intro j hj
    rw [sp.worldOther j (by omega)]
    exact g.old j hj

theorem good_fold (t : Nat) (c0 : Client) (msgs : List MsgEnt) : ∀ (c : Client) (done : List MsgEnt), Good t c0 c done →
    ((done ++ msgs).map (·.ent)).Nodup → (∀ m ∈ msgs, ∀ kv ∈ m.comps, kv.1 ≠ 4) →
    (foldOpt (applyChange t) (c, false) msgs).2 = false ∧ Good t c0 (foldOpt (applyChange t) (c, false) msgs).1 (done ++ msgs) := by
  induction msgs with
  | nil => intro c done g _ _; simpa [foldOpt] using g
  | cons m rest ih =>
    intro c done g hnd hno
    have hnew : ∀ x ∈ done, x.ent ≠ m.ent := by
      intro x hx he
      rw [List.map_append, List.map_cons] at hnd
      have := (List.nodup_append.mp hnd).2.2 x.ent (List.mem_map_of_mem hx) m.ent (by simp)
      exact this he
    obtain ⟨c', h0, g'⟩ := good_step t c0 c done m g hnew (hno m List.mem_cons_self)
    have hfold := foldOpt_cons_some rest h0
    rw [hfold]
    have := ih c' (done ++ [m]) g' (by simpa [List.append_assoc] using hnd) (fun x hx => hno x (List.mem_cons_of_mem _ hx))
    simpa [List.append_assoc] using this

/-- One perfect round at the start of a session (`C01_joiner_converges`, `C09_new_session_round_trip`) -/
theorem fresh_round_trip (s : Server) (thisRun : Nat) (c0 : Client) (hc0 : SessionStart c0) (hw : s.white = false)
    (hd : s.despawnBuf = []) (hr : s.removalBuf = []) (hne : viewMsgs s ≠ [])
    (hkeys : (s.world.map (·.1)).Nodup) (hplain : ∀ m ∈ viewMsgs s, ∀ kv ∈ m.comps, kv.1 ≠ 4) :
    ∃ u, (runClient s thisRun freshCli).2.update = some u ∧ Good s.tick c0 (applyUpdate c0 u) (viewMsgs s) := by
  refine ⟨_, run_fresh s thisRun hw hd hr hne, ?_⟩
  rw [applyUpdate_changes_only]
  exact (good_fold s.tick c0 (viewMsgs s) { c0 with updateTick := s.tick } [] (good_init s.tick c0 hc0)
    (by rw [List.nil_append]; exact viewMsgs_ents_nodup s hkeys) hplain).2

theorem fresh_round_trip_entity (s : Server) (thisRun : Nat) (c0 : Client) (hc0 : SessionStart c0) (hw : s.white = false)
    (hd : s.despawnBuf = []) (hr : s.removalBuf = []) (hne : viewMsgs s ≠ [])
    (hkeys : (s.world.map (·.1)).Nodup) (hplain : ∀ m ∈ viewMsgs s, ∀ kv ∈ m.comps, kv.1 ≠ 4)
    (e : Nat) (ent : SEnt) (mk : Nat) (he : (e, ent) ∈ s.world) (hm : ent.marker = some mk) :
    ∃ u, (runClient s thisRun freshCli).2.update = some u ∧
      ∃ ce, aget (applyUpdate c0 u).s2c e = some ce ∧
        aget (applyUpdate c0 u).world ce =
          some { marked := true, hist := some s.tick,
                 comps := assocOf [] ((present s ent).map fun y => (y.1, y.2.2.val)) } := by
  obtain ⟨u, hu, g⟩ := fresh_round_trip s thisRun c0 hc0 hw hd hr hne hkeys hplain
  refine ⟨u, hu, ?_⟩
  have hmem : ({ ent := e, comps := (present s ent).map fun y => (y.1, y.2.2.val) } : MsgEnt) ∈ viewMsgs s := by
    unfold viewMsgs
    rw [List.mem_filterMap]
    exact ⟨(e, ent), he, by simp [hm]⟩
  obtain ⟨i, hi, hget⟩ := List.mem_iff_getElem.mp hmem
  obtain ⟨hmapped, hrecord⟩ := g.have_ i hi
  rw [hget] at hmapped hrecord
  exact ⟨c0.next + i, hmapped, hrecord⟩

end Replicon.Fresh
