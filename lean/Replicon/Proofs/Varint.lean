import Replicon.Model.Varint
/-
Postcard varints: what the encoder produces, the round trip, and that the decoder is safe on
every input.  "Safe" (`Res.Safe`) is how all the decoders of the receive path are specified:
no panic, and a property of the value if there is one; `Res.Safe.bind` composes such facts the way
the decoders compose.
-/
namespace Replicon

namespace Res
variable {α β : Type}

def Safe (P : α → Prop) : Res α → Prop
  | .ok a => P a
  | .err => True
  | .panic _ => False

theorem Safe.bind {P : α → Prop} {Q : β → Prop} {r : Res α} {f : α → Res β} (h : Safe P r)
    (hf : ∀ a, P a → Safe Q (f a)) : Safe Q (r.bind f) := by
  cases r with
  | ok a => exact hf a h
  | err => trivial
  | panic _ => exact h

theorem Safe.mono {P Q : α → Prop} {r : Res α} (h : Safe P r) (hpq : ∀ a, P a → Q a) : Safe Q r := by
  cases r with
  | ok a => exact hpq a h
  | err => trivial
  | panic _ => exact h

theorem Safe.map {P : β → Prop} {r : Res α} {f : α → β} (h : Safe (fun a => P (f a)) r) : Safe P (r.map f) := by
  cases r with
  | ok a => exact h
  | err => trivial
  | panic _ => exact h

theorem Safe.ok_or_err {P : α → Prop} {r : Res α} (h : Safe P r) : (∃ a, r = .ok a) ∨ r = .err := by
  cases r with
  | ok a => exact Or.inl ⟨a, rfl⟩
  | err => exact Or.inr rfl
  | panic _ => exact h.elim

theorem Safe.of_eq_ok {P : α → Prop} {r : Res α} {a : α} (h : Safe P r) (e : r = .ok a) : P a := by
  rw [e] at h
  exact h

theorem Safe.ne_panic {P : α → Prop} {r : Res α} (h : Safe P r) (s : Nat) : r ≠ .panic s := by
  intro e
  rw [e] at h
  exact h

end Res

/-- `rest` is what is left of `bs` after at least one byte has been read. -/
def Rest (bs rest : List Nat) : Prop := ∃ pre, pre ≠ [] ∧ bs = pre ++ rest

theorem Rest.length_lt {bs rest : List Nat} (h : Rest bs rest) : rest.length < bs.length := by
  obtain ⟨pre, hp, rfl⟩ := h
  rw [List.length_append]
  exact Nat.lt_add_of_pos_left (List.length_pos_iff.mpr hp)

theorem Rest.append {bs r1 r2 pre : List Nat} (h : Rest bs r1) (h2 : r1 = pre ++ r2) : Rest bs r2 := by
  obtain ⟨pre1, hp, rfl⟩ := h
  exact ⟨pre1 ++ pre, fun e => hp (List.append_eq_nil_iff.mp e).1, by rw [h2, List.append_assoc]⟩

theorem encodeVarintLoop_bytesOk : ∀ (fuel v : Nat), BytesOk (encodeVarintLoop fuel v)
  | 0, _ => fun _ hb => nomatch hb
  | fuel + 1, v => by
    unfold encodeVarintLoop
    intro b hb
    split at hb
    · next h =>
      rw [List.mem_singleton.mp hb]
      exact Nat.lt_trans h (by decide)
    · rcases List.mem_cons.mp hb with rfl | hb
      · exact Nat.add_lt_add_right (Nat.mod_lt v (by decide)) 128
      · exact encodeVarintLoop_bytesOk fuel (v / 128) b hb

theorem decodeVarintLoop_last (lastMax fuel mul acc b : Nat) (bs : List Nat) (hb : b < 128) :
    decodeVarintLoop lastMax (fuel + 1) mul acc (b :: bs)
      = if fuel = 0 ∧ b > lastMax then .err else .ok (acc + b * mul, bs) := by
  unfold decodeVarintLoop
  rw [Nat.mod_eq_of_lt hb, Nat.mod_eq_of_lt (show b < 256 from Nat.lt_trans hb (by decide))]
  exact if_pos hb

theorem decodeVarintLoop_cont (lastMax fuel mul acc r : Nat) (bs : List Nat) (hr : r < 128) :
    decodeVarintLoop lastMax (fuel + 1) mul acc ((r + 128) :: bs)
      = decodeVarintLoop lastMax fuel (mul * 128) (acc + r * mul) bs := by
  rw [decodeVarintLoop, Nat.add_mod_right, Nat.mod_eq_of_lt hr,
    Nat.mod_eq_of_lt (show r + 128 < 256 by omega)]
  exact if_neg (by omega)

/-- `fuel + 1` bytes carry `7 · fuel` bits and a last byte `≤ lastMax`: the bound is `2^32` for `u32`
(`128^4 · 16`), `2^64` for `u64` (`128^9 · 2`), `2^16` for `u16` (`128^2 · 4`). -/
theorem decodeVarintLoop_encode (lastMax : Nat) (hl : lastMax < 128) :
    ∀ (fuel v mul acc : Nat) (rest : List Nat), v < 128 ^ fuel * (lastMax + 1) →
      decodeVarintLoop lastMax (fuel + 1) mul acc (encodeVarintLoop (fuel + 1) v ++ rest)
        = .ok (acc + v * mul, rest) := by
  intro fuel
  induction fuel with
  | zero =>
    intro v mul acc rest hv
    rw [Nat.pow_zero, Nat.one_mul] at hv
    have hv' : v < 128 := by omega
    rw [encodeVarintLoop, if_pos hv', List.singleton_append, decodeVarintLoop_last _ _ _ _ _ _ hv']
    exact if_neg fun h => Nat.not_lt.mpr (Nat.le_of_lt_succ hv) h.2
  | succ fuel ih =>
    intro v mul acc rest hv
    rw [encodeVarintLoop]
    by_cases h : v < 128
    · rw [if_pos h, List.singleton_append, decodeVarintLoop_last _ _ _ _ _ _ h]
      exact if_neg fun h0 => Nat.succ_ne_zero fuel h0.1
    · rw [Nat.pow_succ, Nat.mul_comm (128 ^ fuel), Nat.mul_assoc] at hv
      rw [if_neg h, List.cons_append, decodeVarintLoop_cont _ _ _ _ _ _ (Nat.mod_lt v (by decide)),
        ih (v / 128) (mul * 128) (acc + v % 128 * mul) rest (Nat.div_lt_of_lt_mul hv)]
      -- `v = 128 * (v / 128) + v % 128`, times `mul`
      have : v * mul = v / 128 * (mul * 128) + v % 128 * mul := by
        rw [Nat.mul_comm mul, ← Nat.mul_assoc, ← Nat.add_mul, Nat.mul_comm _ 128, Nat.div_add_mod]
      rw [this, Nat.add_assoc, Nat.add_comm (v % 128 * mul)]

theorem decodeU32_encode (v : Nat) (rest : List Nat) (hv : v < 4294967296) :
    decodeU32 (encodeU32 v ++ rest) = .ok (v, rest) := by
  have := decodeVarintLoop_encode 15 (by decide) 4 v 1 0 rest hv
  rwa [Nat.zero_add, Nat.mul_one] at this

theorem decodeU64_encode (v : Nat) (rest : List Nat) (hv : v < 18446744073709551616) :
    decodeU64 (encodeU64 v ++ rest) = .ok (v, rest) := by
  have := decodeVarintLoop_encode 1 (by decide) 9 v 1 0 rest hv
  rwa [Nat.zero_add, Nat.mul_one] at this

theorem decodeU16_encode (v : Nat) (rest : List Nat) (hv : v < 65536) :
    decodeU16 (encodeU16 v ++ rest) = .ok (v, rest) := by
  have := decodeVarintLoop_encode 3 (by decide) 2 v 1 0 rest hv
  rwa [Nat.zero_add, Nat.mul_one] at this

theorem decodeVarintLoop_safe (lastMax : Nat) : ∀ (fuel mul acc : Nat) (bs : List Nat),
    (decodeVarintLoop lastMax fuel mul acc bs).Safe fun vr => Rest bs vr.2
  | 0, _, _, _ => trivial
  | _ + 1, _, _, [] => trivial
  | fuel + 1, mul, acc, b :: bs => by
    unfold decodeVarintLoop
    dsimp only
    split
    · split
      · trivial
      · exact ⟨[b], List.cons_ne_nil b [], rfl⟩
    · exact (decodeVarintLoop_safe lastMax fuel _ _ bs).mono fun _ ⟨pre, _, hb⟩ =>
        ⟨b :: pre, List.cons_ne_nil b pre, congrArg (b :: ·) hb⟩

theorem decodeU64_safe (bs : List Nat) : (decodeU64 bs).Safe fun vr => Rest bs vr.2 :=
  decodeVarintLoop_safe 1 10 1 0 bs

theorem decodeU32_safe (bs : List Nat) : (decodeU32 bs).Safe fun vr => Rest bs vr.2 :=
  decodeVarintLoop_safe 15 5 1 0 bs

end Replicon
