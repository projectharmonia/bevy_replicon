import Replicon.Model.Backend
/-
C17's two halves: the link conditioner's queue stays in insertion order, so with the sequence number
as tie-break its best element is the oldest and draining is FIFO (`runLink_fifo`); and the 3-byte
framing reads back exactly what was framed.
-/

namespace Replicon.Backend

/-- what replicon receives for a queued message -/
def out (m : TimedMsg) : Nat × List Nat := (m.ch, m.payload)

/-- Insertion order: timestamps do not decrease, sequence numbers strictly increase. -/
def Before (a b : TimedMsg) : Prop := a.ts ≤ b.ts ∧ a.seq < b.seq

/-- The queue during one receiver pass at time `now`: in insertion order, nothing in it is from
after `now`, and `nextSeq` is fresh. -/
structure CInv (c : Conditioner) (now : Nat) : Prop where
  ordered : c.items.Pairwise Before
  due : ∀ x ∈ c.items, x.ts ≤ now
  fresh : ∀ x ∈ c.items, x.seq < c.nextSeq

theorem CInv.empty {c : Conditioner} (now : Nat) (h : c.items = []) : CInv c now := by
  refine ⟨?_, ?_, ?_⟩ <;> rw [h]
  · exact List.Pairwise.nil
  · exact fun _ hx => nomatch hx
  · exact fun _ hx => nomatch hx

/-- With the tie-break an earlier message strictly beats a later one under `TimedMessage::cmp`, so
the head of a queue in insertion order is its only `cmp`-greatest element. -/
theorem tmCmp_of_before (x y : TimedMsg) (h : Before x y) : tmCmp y x = .lt := by
  obtain ⟨h1, h2⟩ := h
  unfold tmCmp
  rcases Nat.lt_or_eq_of_le h1 with hlt | heq
  · rw [Nat.compare_eq_lt.mpr hlt]
  · rw [Nat.compare_eq_eq.mpr heq]
    show (if Consts.heapTieBreak = 1 then compare x.seq y.seq else Ordering.eq) = Ordering.lt
    rw [if_pos (show Consts.heapTieBreak = 1 from rfl), Nat.compare_eq_lt.mpr h2]

theorem best_mem : ∀ (l : List TimedMsg) (y : TimedMsg), best l = some y → y ∈ l
  | x :: xs, y, h => by
    unfold best at h
    cases hb : best xs with
    | none =>
      rw [hb] at h
      cases h
      exact List.mem_cons_self
    | some z =>
      rw [hb] at h
      dsimp only at h
      split at h
      · cases h
        exact List.mem_cons_of_mem _ (best_mem xs _ hb)
      · cases h
        exact List.mem_cons_self

theorem best_head (x : TimedMsg) (xs : List TimedMsg) (h : (x :: xs).Pairwise Before) :
    best (x :: xs) = some x := by
  unfold best
  cases hb : best xs with
  | none => rfl
  | some y =>
    have hlt := tmCmp_of_before x y ((List.pairwise_cons.mp h).1 y (best_mem xs y hb))
    show (if tmCmp y x = .gt then some y else some x) = some x
    exact if_neg fun hgt => Ordering.noConfusion (hlt.symm.trans hgt)

theorem pop_head (x : TimedMsg) (xs : List TimedMsg) (n now : Nat) (h : (x :: xs).Pairwise Before)
    (hd : x.ts ≤ now) : Conditioner.pop ⟨x :: xs, n⟩ now = some (out x, ⟨xs, n⟩) := by
  unfold Conditioner.pop
  dsimp only
  rw [best_head x xs h]
  dsimp only
  rw [if_pos hd, List.erase_cons_head]
  rfl

theorem drain_all (now n : Nat) (items : List TimedMsg) (inv : CInv ⟨items, n⟩ now) :
    Conditioner.drain ⟨items, n⟩ now items.length = (items.map out, ⟨[], n⟩) := by
  induction items with
  | nil => rfl
  | cons x xs ih =>
    rw [List.length_cons, Conditioner.drain, pop_head x xs n now inv.ordered (inv.due x List.mem_cons_self)]
    dsimp only
    rw [ih ⟨(List.pairwise_cons.mp inv.ordered).2, fun y hy => inv.due y (List.mem_cons_of_mem _ hy),
      fun y hy => inv.fresh y (List.mem_cons_of_mem _ hy)⟩]
    rfl

theorem insert_inv (c : Conditioner) (now ch : Nat) (p : List Nat) (inv : CInv c now) :
    CInv (c.insert now ch p) now := by
  refine ⟨List.pairwise_append.mpr ⟨inv.ordered, List.pairwise_singleton _ _, fun a ha b hb => ?_⟩,
    fun x hx => ?_, fun x hx => ?_⟩
  · cases List.mem_singleton.mp hb
    exact ⟨inv.due a ha, inv.fresh a ha⟩
  · rcases List.mem_append.mp hx with hx | hx
    · exact inv.due x hx
    · cases List.mem_singleton.mp hx
      exact Nat.le_refl _
  · rcases List.mem_append.mp hx with hx | hx
    · exact Nat.lt_succ_of_lt (inv.fresh x hx)
    · cases List.mem_singleton.mp hx
      exact Nat.lt_succ_self _

theorem insertAll_inv (now : Nat) : ∀ (msgs : List (Nat × List Nat)) (c : Conditioner), CInv c now →
    CInv (msgs.foldl (fun c m => c.insert now m.1 m.2) c) now
  | [], _, inv => inv
  | m :: ms, c, inv => insertAll_inv now ms _ (insert_inv c now m.1 m.2 inv)

theorem insertAll_items (now : Nat) : ∀ (msgs : List (Nat × List Nat)) (c : Conditioner),
    (msgs.foldl (fun c m => c.insert now m.1 m.2) c).items.map out = c.items.map out ++ msgs
  | [], c => (List.append_nil _).symm
  | m :: ms, c => by
    rw [List.foldl_cons, insertAll_items now ms]
    show (c.items ++ [_]).map out ++ ms = _
    rw [List.map_append, List.append_assoc]
    rfl

/-- A pass stamps what it reads with its own time, so everything is due at once: a pass that
finds the queue empty hands over exactly what it read, in reading order, and leaves it empty. -/
theorem receive_empty (c : Conditioner) (now : Nat) (msgs : List (Nat × List Nat)) (h : c.items = []) :
    (c.receive now msgs).1 = msgs ∧ (c.receive now msgs).2.items = [] := by
  unfold Conditioner.receive
  dsimp only
  rw [drain_all now _ _ (insertAll_inv now msgs c (CInv.empty now h))]
  refine ⟨?_, rfl⟩
  show (msgs.foldl (fun c m => c.insert now m.1 m.2) c).items.map out = msgs
  rw [insertAll_items, h]
  rfl

theorem frame_eq_some {ch : Nat} {m f : List Nat} (h : frame ch m = some f) :
    f = ch :: m.length % 256 :: m.length / 256 :: m := by
  unfold frame at h
  split at h
  · exact (Option.some.inj h).symm
  · cases h

theorem frameAll_cons_eq_some {m : Nat × List Nat} {ms : List (Nat × List Nat)} {buf : List Nat}
    (h : frameAll (m :: ms) = some buf) :
    ∃ f r, frame m.1 m.2 = some f ∧ frameAll ms = some r ∧ buf = f ++ r := by
  unfold frameAll at h
  split at h
  · next f r hf hr => exact ⟨f, r, hf, hr, (Option.some.inj h).symm⟩
  · cases h

theorem readMessage_frame (ch : Nat) (m rest : List Nat) (f : List Nat) (h : frame ch m = some f) :
    readMessage (f ++ rest) = some ((ch, m), rest) := by
  rw [frame_eq_some h, List.cons_append, List.cons_append, List.cons_append]
  unfold readMessage
  dsimp only
  rw [Nat.mod_add_div, if_neg (by rw [List.length_append]; exact Nat.not_lt.mpr (Nat.le_add_right _ _)),
    List.take_left, List.drop_left]

theorem frame_length (ch : Nat) (m f : List Nat) (h : frame ch m = some f) : f.length = m.length + 3 := by
  rw [frame_eq_some h]
  rfl

/-- a frame has at least one byte: the buffer's length bounds the number of messages in it -/
theorem length_le_of_frameAll : ∀ (msgs : List (Nat × List Nat)) (buf : List Nat),
    frameAll msgs = some buf → msgs.length ≤ buf.length
  | [], _, _ => Nat.zero_le _
  | m :: ms, buf, h => by
    obtain ⟨f, r, hf, hr, rfl⟩ := frameAll_cons_eq_some h
    have := length_le_of_frameAll ms r hr
    rw [List.length_append, frame_length _ _ _ hf, List.length_cons]
    omega

theorem readAll_frameAll : ∀ (msgs : List (Nat × List Nat)) (buf : List Nat) (fuel : Nat),
    frameAll msgs = some buf → msgs.length ≤ fuel → readAll fuel buf = msgs
  | [], _, 0, _, _ => rfl
  | [], _, _ + 1, h, _ => by
    cases h
    rfl
  | m :: ms, _, fuel + 1, h, hfuel => by
    obtain ⟨f, r, hf, hr, rfl⟩ := frameAll_cons_eq_some h
    unfold readAll
    rw [readMessage_frame m.1 m.2 r f hf]
    dsimp only
    rw [readAll_frameAll ms r fuel hr (Nat.le_of_succ_le_succ hfuel)]

theorem readAll_stream (msgs : List (Nat × List Nat)) (buf : List Nat) (h : frameAll msgs = some buf) :
    readAll buf.length buf = msgs :=
  readAll_frameAll msgs buf buf.length h (length_le_of_frameAll msgs buf h)

/-- Receiver passes happen at non-decreasing times. -/
def TimesOk : Nat → List (Nat × List (Nat × List Nat)) → Prop
  | _, [] => True
  | now, (t, _) :: rest => now ≤ t ∧ TimesOk t rest

theorem runLink_cons_eq_some {c : Conditioner} {t : Nat} {batch : List (Nat × List Nat)}
    {ps : List (Nat × List (Nat × List Nat))} {o : List (Nat × List Nat)}
    (h : runLink c ((t, batch) :: ps) = some o) :
    ∃ buf o', frameAll batch = some buf ∧
      runLink (c.receive t (readAll buf.length buf)).2 ps = some o' ∧
      o = (c.receive t (readAll buf.length buf)).1 ++ o' := by
  unfold runLink at h
  split at h
  · cases h
  · next buf hf =>
    dsimp only at h
    split at h
    · next o' hr => exact ⟨buf, o', hf, hr, (Option.some.inj h).symm⟩
    · cases h

/-- Every pass finds the queue empty and empties it again, whatever the times of the passes. -/
theorem runLink_fifo : ∀ (passes : List (Nat × List (Nat × List Nat))) (c : Conditioner)
    (o : List (Nat × List Nat)), c.items = [] → runLink c passes = some o →
    o = (passes.map (·.2)).flatten
  | [], _, _, _, h => (Option.some.inj h).symm
  | (t, batch) :: ps, c, o, hempty, h => by
    obtain ⟨buf, o', hf, hr, rfl⟩ := runLink_cons_eq_some h
    rw [readAll_stream batch buf hf] at hr ⊢
    obtain ⟨h1, h2⟩ := receive_empty c t batch hempty
    rw [h1, runLink_fifo ps _ o' h2 hr]
    rfl

end Replicon.Backend
