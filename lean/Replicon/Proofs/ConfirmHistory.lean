import Replicon.Proofs.Window
/-
`ConfirmHistory` (a 64-bit mask and the last tick, seen modulo 2^32) refines the plain set of
confirmed ticks `SetSpec`: `CHInv` is kept by `confirm`, and the queries answer as the set does.
Before `CHInv`: the facts about single bits of the `u64` mask that the refinement needs.
-/
namespace Replicon
open Window

theorem one_bit (j : Nat) : (1 : BitVec 64).getLsbD j = decide (j = 0) :=
  BitVec.getLsbD_one.trans (Bool.true_and _)

theorem zero_bit (j : Nat) : (0 : BitVec 64).getLsbD j = false := BitVec.getLsbD_zero

theorem bv_set_bit (m : BitVec 64) (ago i : Nat) (hi : i < 64) :
    (m ||| ((1 : BitVec 64) <<< ago)).getLsbD i = if i = ago then true else m.getLsbD i := by
  rw [BitVec.getLsbD_or, BitVec.getLsbD_shiftLeft, one_bit]
  rcases Nat.lt_trichotomy i ago with h | h | h
  · simp [h, Nat.ne_of_lt h]
  · subst h; simp [hi]
  · simp [Nat.ne_of_gt h, Nat.lt_asymm h, Nat.sub_ne_zero_of_lt h]

theorem bv_advance_bit (m : BitVec 64) (d i : Nat) (hi : i < 64) :
    ((if d < 64 then m <<< d else 0) ||| (1 : BitVec 64)).getLsbD i
      = if i = 0 then true else if i < d then false else m.getLsbD (i - d) := by
  rw [BitVec.getLsbD_or, one_bit]
  by_cases h0 : i = 0
  · rw [if_pos h0, decide_eq_true h0, Bool.or_true]
  · rw [if_neg h0, decide_eq_false h0, Bool.or_false]
    by_cases hid : i < d
    · rw [if_pos hid]
      by_cases hd : d < 64
      · rw [if_pos hd, BitVec.getLsbD_shiftLeft, decide_eq_true hid, Bool.not_true, Bool.and_false,
          Bool.false_and]
      · rw [if_neg hd, zero_bit]
    · rw [if_neg hid, if_pos (Nat.lt_of_le_of_lt (Nat.le_of_not_lt hid) hi), BitVec.getLsbD_shiftLeft,
        decide_eq_true hi, decide_eq_false hid]
      rfl

theorem range_eq (len : Nat) (h : len < 64) :
    ((1 : BitVec 64) <<< len) - 1 = BitVec.ofNat 64 (2 ^ len - 1) := by
  have h2 : (1 : BitVec 64) <<< len = BitVec.ofNat 64 (2 ^ len) :=
    BitVec.eq_of_toNat_eq ((BitVec.toNat_twoPow_of_lt h).trans
      (Nat.mod_eq_of_lt (Nat.pow_lt_pow_right (by decide) h)).symm)
  rw [h2]
  exact BitVec.ofNat_sub_ofNat_of_le (2 ^ len) 1 (by decide) Nat.one_le_two_pow

theorem range_bit (len j : Nat) :
    (if len < 64 then ((1 : BitVec 64) <<< len) - 1 else BitVec.allOnes 64).getLsbD j
      = (decide (j < 64) && decide (j < len)) := by
  by_cases h : len < 64
  · rw [if_pos h, range_eq len h, BitVec.getLsbD_ofNat, Nat.testBit_two_pow_sub_one]
  · rw [if_neg h, BitVec.getLsbD_allOnes]
    by_cases hj : j < 64
    · have : j < len := by omega
      simp [hj, this]
    · simp [hj]

theorem bv_ne_zero_iff (x : BitVec 64) : (x != 0) = true ↔ ∃ i, x.getLsbD i = true :=
  ⟨fun h => ⟨_, BitVec.getLsbD_true_ctz_of_ne_zero (bne_iff_ne.mp h)⟩,
   fun ⟨i, hb⟩ => bne_iff_ne.mpr fun h0 => by rw [h0, zero_bit] at hb; cases hb⟩

/-- The mask test of `contains_any`: some bit among `off, …, off + len - 1` is set. -/
theorem bv_range_test (m : BitVec 64) (len off : Nat) :
    ((m &&& ((if len < 64 then ((1 : BitVec 64) <<< len) - 1 else BitVec.allOnes 64) <<< off)) != 0) = true
      ↔ ∃ i, off ≤ i ∧ i < off + len ∧ m.getLsbD i = true := by
  rw [bv_ne_zero_iff]
  constructor
  · rintro ⟨i, hb⟩
    rw [BitVec.getLsbD_and, BitVec.getLsbD_shiftLeft, range_bit] at hb
    simp only [Bool.and_eq_true, decide_eq_true_eq, Bool.not_eq_true', decide_eq_false_iff_not] at hb
    exact ⟨i, by omega, by omega, hb.1⟩
  · rintro ⟨i, h1, h2, hb⟩
    refine ⟨i, ?_⟩
    rw [BitVec.getLsbD_and, BitVec.getLsbD_shiftLeft, range_bit, hb]
    have := BitVec.lt_of_getLsbD hb
    simp only [Bool.true_and, Bool.and_eq_true, decide_eq_true_eq, Bool.not_eq_true', decide_eq_false_iff_not]
    omega

/-- The implementation state `h` represents the set `sp`. -/
def CHInv (h : ConfirmHistory) (sp : SetSpec) : Prop :=
  h.last = sp.last % 4294967296 ∧ (∀ s ∈ sp.confirmed, s ≤ sp.last) ∧
  ∀ i, i < 64 → h.mask.getLsbD i = (decide (i ≤ sp.last) && decide (sp.last - i ∈ sp.confirmed))

theorem CHInv.last {h : ConfirmHistory} {sp : SetSpec} (inv : CHInv h sp) : h.last = sp.last % 4294967296 := inv.1

theorem CHInv.le {h : ConfirmHistory} {sp : SetSpec} (inv : CHInv h sp) : ∀ s ∈ sp.confirmed, s ≤ sp.last := inv.2.1

theorem CHInv.bit {h : ConfirmHistory} {sp : SetSpec} (inv : CHInv h sp) {i : Nat} (hi : i < 64) :
    h.mask.getLsbD i = cell (fun q => decide (q ∈ sp.confirmed)) false sp.last i :=
  (inv.2.2 i hi).trans (cell_decide (· ∈ sp.confirmed) sp.last i).symm

theorem CHInv.mk' {h : ConfirmHistory} {sp : SetSpec} (hl : h.last = sp.last % 4294967296)
    (hle : ∀ s ∈ sp.confirmed, s ≤ sp.last)
    (hbits : ∀ i, i < 64 → h.mask.getLsbD i = cell (fun q => decide (q ∈ sp.confirmed)) false sp.last i) :
    CHInv h sp :=
  ⟨hl, hle, fun i hi => (hbits i hi).trans (cell_decide (· ∈ sp.confirmed) sp.last i)⟩

theorem ch_new (t0 : Nat) : CHInv (ConfirmHistory.new (t0 % 4294967296)) (SetSpec.new t0) := by
  refine ⟨rfl, ?_, ?_⟩
  · intro s hs
    simp only [SetSpec.new, List.mem_singleton] at hs
    subst hs; exact Nat.le_refl _
  · intro i _
    have hm : (ConfirmHistory.new (t0 % 4294967296)).mask = (1 : BitVec 64) := rfl
    rw [hm, one_bit]
    show decide (i = 0) = (decide (i ≤ t0) && decide (t0 - i ∈ [t0]))
    rw [Bool.eq_iff_iff]
    simp only [decide_eq_true_eq, Bool.and_eq_true, List.mem_singleton]
    omega

theorem ch_confirm (h : ConfirmHistory) (sp : SetSpec) (t : Nat) (inv : CHInv h sp)
    (near : Near t sp.last) :
    ∃ h', h.confirm (t % 4294967296) = .ok h' ∧ CHInv h' (sp.confirm t) := by
  have hl := inv.last
  have hle' : ∀ s ∈ (sp.confirm t).confirmed, s ≤ (sp.confirm t).last :=
    List.forall_mem_cons.mpr
      ⟨Nat.le_max_right _ _, fun s hs => Nat.le_trans (inv.le s hs) (Nat.le_max_left _ _)⟩
  -- the record of every tick but `t` is as before
  have hG : ∀ q, q ≠ t → decide (q ∈ (sp.confirm t).confirmed) = decide (q ∈ sp.confirmed) :=
    fun q hq => decide_eq_decide.mpr (List.mem_cons.trans (or_iff_right hq))
  have ht : decide (t ∈ (sp.confirm t).confirmed) = true := decide_eq_true List.mem_cons_self
  have hblank : ∀ q, sp.last < q → decide (q ∈ sp.confirmed) = false :=
    fun q hq => decide_eq_false fun hm => Nat.not_le.mpr hq (inv.le q hm)
  unfold ConfirmHistory.confirm
  rw [hl, tickGt_abs t sp.last near]
  by_cases hgt : t > sp.last
  · have hlast : (sp.confirm t).last = t := Nat.max_eq_right (Nat.le_of_lt hgt)
    rw [decide_eq_true hgt, if_pos rfl]
    unfold ConfirmHistory.setLastTick
    rw [hl, tickGe_abs t sp.last near, decide_eq_true (Nat.le_of_lt hgt), if_pos rfl,
      tickSub_near near (Nat.le_of_lt hgt)]
    refine ⟨_, rfl, CHInv.mk' (congrArg (· % 4294967296) hlast.symm) hle' fun i hi => ?_⟩
    show ((if t - sp.last < 64 then h.mask <<< (t - sp.last) else 0) ||| (1 : BitVec 64)).getLsbD i = _
    rw [bv_advance_bit _ _ _ hi, hlast]
    by_cases h0 : i = 0
    · rw [if_pos h0, h0, cell_of_add (Nat.add_zero t)]
      exact ht.symm
    · rw [if_neg h0, cell_advance hG hblank hgt i h0, inv.bit (Nat.lt_of_le_of_lt (Nat.sub_le _ _) hi)]
  · have hle : t ≤ sp.last := Nat.le_of_not_lt hgt
    have hlast : (sp.confirm t).last = sp.last := Nat.max_eq_left hle
    have hl' : h.last = (sp.confirm t).last % 4294967296 := hl.trans (congrArg (· % 4294967296) hlast.symm)
    have hcell : ∀ i, i < 64 → cell (fun q => decide (q ∈ (sp.confirm t).confirmed)) false (sp.confirm t).last i
        = if i = sp.last - t then true else h.mask.getLsbD i :=
      fun i hi => by rw [hlast, cell_update hG hle i, ht, inv.bit hi]
    rw [decide_eq_false hgt, if_neg Bool.false_ne_true, tickSub_near near.symm hle]
    show ∃ h', (if sp.last - t < 64 then h.set (sp.last - t) else Res.ok h) = _ ∧ _
    by_cases hago : sp.last - t < 64
    · rw [if_pos hago]
      unfold ConfirmHistory.set
      rw [if_pos (show sp.last - t < ConfirmHistory.window from hago)]
      refine ⟨_, rfl, CHInv.mk' hl' hle' fun i hi => ?_⟩
      rw [hcell i hi]
      exact bv_set_bit _ _ _ hi
    · rw [if_neg hago]
      refine ⟨h, rfl, CHInv.mk' hl' hle' fun i hi => ?_⟩
      rw [hcell i hi, if_neg (Nat.ne_of_lt (Nat.lt_of_lt_of_le hi (Nat.le_of_not_lt hago)))]

theorem CHInv.view {h : ConfirmHistory} {sp : SetSpec} (inv : CHInv h sp) (q i : Nat) (hq : q + i = sp.last)
    (hi : i < 64) : h.mask.getLsbD i = decide (q ∈ sp.confirmed) :=
  (inv.bit hi).trans (cell_of_add hq)

theorem SetSpec.contains_eq_has (sp : SetSpec) (q : Nat) :
    sp.contains q = has sp.last (fun q => decide (q ∈ sp.confirmed)) q := rfl

theorem ch_contains (h : ConfirmHistory) (sp : SetSpec) (q : Nat) (inv : CHInv h sp)
    (near : Near q sp.last) :
    h.contains (q % 4294967296) = sp.contains q := by
  unfold ConfirmHistory.contains
  rw [inv.last, tickGt_abs q sp.last near, SetSpec.contains_eq_has]
  by_cases hgt : q > sp.last
  · rw [decide_eq_true hgt, if_pos rfl]
    exact (has_of_gt hgt).symm
  · have hle : q ≤ sp.last := Nat.le_of_not_lt hgt
    rw [decide_eq_false hgt, if_neg Bool.false_ne_true, tickSub_near near.symm hle]
    show (decide (sp.last - q ≥ 64) || (h.mask >>> (sp.last - q)).getLsbD 0) = _
    rw [BitVec.getLsbD_ushiftRight, Nat.add_zero]
    exact (has_of_le inv.view hle).symm

/-- Range queries never panic and answer as the set would, also while the window still reaches
below tick 0. -/
theorem ch_contains_any_of_inv (h : ConfirmHistory) (sp : SetSpec) (a b : Nat) (inv : CHInv h sp)
    (hab : a ≤ b) (nab : Near a b) (na : Near a sp.last) (nb : Near b sp.last) :
    ∃ v, h.containsAny (a % 4294967296) (b % 4294967296) = .ok v ∧ (v = true ↔ sp.containsAny a b) := by
  unfold ConfirmHistory.containsAny
  rw [inv.last, tickLe_abs a b nab, decide_eq_true hab, if_neg (by decide), tickGt_abs a sp.last na]
  by_cases hgt : a > sp.last
  · rw [decide_eq_true hgt, if_pos rfl]
    exact ⟨false, rfl, iff_of_false Bool.false_ne_true (not_exists_has hgt)⟩
  · have hle : a ≤ sp.last := Nat.le_of_not_lt hgt
    rw [decide_eq_false hgt, if_neg Bool.false_ne_true,
      tickLe_window (w := ConfirmHistory.window) na hle (by decide)]
    by_cases hold : a + ConfirmHistory.window ≤ sp.last
    · rw [decide_eq_true hold, if_pos rfl]
      exact ⟨true, rfl, iff_of_true rfl (exists_has_old hab hold)⟩
    · -- inside the window: the ticks `a, …, e = min b last` occupy the slots `last - e, …, last - a`
      -- (`slots_of_ticks`), the code tests those bits of the mask (`bv_range_test`), and
      -- `exists_has_window` reads the bits as the set's answer
      have hmin : a ≤ min b sp.last := Nat.le_min.mpr ⟨hab, hle⟩
      have hmin' : min b sp.last ≤ sp.last := Nat.min_le_right _ _
      have hw : sp.last < a + 64 := Nat.lt_of_not_le hold
      obtain ⟨s1, s2, s3, s4⟩ := slots_of_ticks hmin hmin' hw
      rw [decide_eq_false hold, if_neg Bool.false_ne_true, tickMin_abs nb]
      dsimp only
      rw [tickSub_within na (Nat.le_refl a) hmin hmin', tickSub_within na hmin hmin' (Nat.le_refl _),
        if_neg (Nat.not_le.mpr (Nat.lt_trans (Nat.succ_lt_succ s1) (by decide))),
        if_neg (Nat.not_le.mpr (Nat.lt_of_le_of_lt s2 s3))]
      refine ⟨_, rfl, ?_⟩
      rw [bv_range_test, s4]
      simp only [Nat.lt_succ_iff]
      exact (exists_has_window inv.view hle hw).symm

theorem ch_contains_any (h : ConfirmHistory) (sp : SetSpec) (a b : Nat) (inv : CHInv h sp)
    (hab : a ≤ b) (nab : Near a b) (na : Near a sp.last) (nb : Near b sp.last) (hbase : 64 ≤ sp.last) :
    ∃ v, h.containsAny (a % 4294967296) (b % 4294967296) = .ok v ∧ (v = true ↔ sp.containsAny a b) := by
  have _ := hbase  -- not needed: the statement without it is `ch_contains_any_of_inv`
  exact ch_contains_any_of_inv h sp a b inv hab nab na nb

end Replicon
