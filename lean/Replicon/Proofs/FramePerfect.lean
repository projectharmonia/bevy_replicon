import Replicon.Proofs.ClientVals
import Replicon.Proofs.RunRecords

/-!
# One run, both sides, every value — under perfect delivery

A well-formed receiver that has every tracked entity confirmed at a tick older than this run's, and
has the current value of every every-tick component that did not change since the last run: after
it applies the run's update message and every record of the run's mutate messages, it has the
server's current value of every every-tick plain component of every entity the server tracks for
the client after the run.
-/

namespace Replicon.Srv
open Replicon.Cli

/-- the client applies a run's update message (if there is one) and then every record of its mutate messages -/
def recvRun (c : Client) (o : ClientOut) (tick : Nat) : Client :=
  o.mutEnts.foldl (mutStep tick) (match o.update with | some u => applyUpdate c u | none => c)

/-- the common setting of the value argument for one client in one run (`hrm` and `hh` are carried; the
argument, `frame_values_perfect`, needs neither) -/
structure RunCtx (p : Server) (x : Nat × Cli) (c : Client) : Prop where
  sinv : SyncInv p
  hrm : RemovalsMarked p
  kinv : KindInv p
  hrates : (p.rates.map (·.1)).Nodup
  hx : x ∈ p.clients
  hmap : x.2.mappings = []
  wf : WF c
  hh : ∀ se, held c se ↔ se ∈ keys x.2

/-- to show something of the receiver after the run's update message: show it after the message the run
assembles, and, for a run that sends none, of the receiver as it is, the sections being empty -/
theorem recv_update_elim (p : Server) (thisRun : Nat) (cl : Cli) (c : Client) (P : Client → Prop)
    (hsent : P (applyUpdate c (runUpdate p thisRun cl)))
    (hnone : (runUpdate p thisRun cl).changes = [] → P c) :
    P (match (runClient p thisRun cl).2.update with | some u => applyUpdate c u | none => c) := by
  cases hu : (runClient p thisRun cl).2.update with
  | none => exact hnone (Update.changes_of_isEmpty (runClient_update_none hu))
  | some u => rw [runClient_update_some hu]; exact hsent

/-- **One run, both sides, every value, under perfect delivery.**  The three cases of `run_says`: a
component the run says nothing about has not changed since the last run, so the receiver has its
value already and nothing touches it; a component named by the entity's CHANGES record arrives with
the update message and no mutate record touches it; a component named by the entity's mutate record
arrives with that record, which is applied because the update message left the entity `Ready`. -/
theorem frame_values_perfect (p : Server) (hn : (p.world.map (·.1)).Nodup) (hrates : (p.rates.map (·.1)).Nodup)
    (kinv : KindInv p) (cl : Cli) (hcs : CliSync p.white p.world p.despawnBuf cl) (hmap : cl.mappings = [])
    (c : Client) (wf : WF c)
    (hbel : ∀ e t, aget cl.mutTick e = some t → t ≤ p.lastRun)
    (hready : ∀ e, e ∈ keys cl → Ready p.tick c e)
    (hQ : ∀ e, e ∈ keys cl → ∀ ent, (e, ent) ∈ p.world → ∀ k comp, (k, Rate.every, comp) ∈ present p ent →
      c.entityComps.contains k = false → ¬ comp.added > p.lastRun → ¬ comp.changed > p.lastRun →
      valOn c e k = some comp.val)
    (e : Nat) (he : e ∈ keys (runClient p (p.now + 1) cl).1) (ent : SEnt) (hw : (e, ent) ∈ p.world)
    (k : Nat) (comp : Comp) (hp : (k, Rate.every, comp) ∈ present p ent) (hplain : c.entityComps.contains k = false) :
    valOn (recvRun c (runClient p (p.now + 1) cl).2 p.tick) e k = some comp.val := by
  obtain ⟨hndc, hndm⟩ := run_records_nodup p hrates (p.now + 1) cl
  unfold recvRun
  -- the receiver after the update message is well-formed and has the same entity-valued kinds
  obtain ⟨wf1, ec1⟩ := recv_update_elim p (p.now + 1) cl c (fun c1 => WF c1 ∧ c1.entityComps = c.entityComps)
    ⟨applyUpdate_wf c _ wf hmap, (applyUpdate_same c _).entityComps⟩ (fun _ => ⟨wf, rfl⟩)
  have hplain1 := ec1 ▸ hplain
  rcases run_says p hn hrates kinv (p.now + 1) cl hcs e he ent hw k Rate.every comp hp with h | ⟨rec, h⟩ | ⟨rec, h⟩
  · -- not due, at an every-tick rate (the `rfl`: `Rate.every.sendMutations _ = true`, the one place where the
    -- restriction to every-tick components enters), is not changed after the belief tick `t`, and `t ≤ lastRun`
    obtain ⟨t, hknown, hnc⟩ := h.notDue
    have hval := hQ e h.tracked ent hw k comp hp hplain h.old (fun hc => hnc ⟨Nat.lt_of_le_of_lt (hbel e t hknown) hc, rfl⟩)
    rw [mutFold_unnamed p.tick e k _ _ wf1 hplain1 hndm h.notMutated]
    exact recv_update_elim p (p.now + 1) cl c (fun c1 => valOn c1 e k = some comp.val)
      ((applyUpdate_vals_other c _ wf hmap e k hplain h.notDespawned h.notRemoved hndc h.notChanged).trans hval) (fun _ => hval)
  · rw [mutFold_unnamed p.tick e k _ _ wf1 hplain1 hndm (fun m hm hem => h.notMutated m hm hem.1.symm)]
    refine recv_update_elim p (p.now + 1) cl c (fun c1 => valOn c1 e k = some comp.val) ?_
      (fun hnil => nomatch hnil ▸ h.mem)
    rw [applyUpdate_record_vals c _ wf hmap e rec h.mem h.entity h.only (hndc rec h.mem) k
      (List.mem_map_of_mem (f := (·.1)) h.value) hplain]
    exact aget_of_mem_nodup rec.comps k comp.val (hndc rec h.mem) h.value
  · apply mutFold_target p.tick e k comp.val rec h.entity (List.mem_map_of_mem (f := (·.1)) h.value)
      (aget_of_mem_nodup rec.comps k comp.val (hndm rec h.mem) h.value) _ _ wf1 hplain1 hndm h.only
    exact Or.inl ⟨h.mem, recv_update_elim p (p.now + 1) cl c (fun c1 => Ready p.tick c1 e)
      (ready_of_view (applyUpdate_unnamed c _ wf hmap e h.notDespawned h.notRemoved h.notChanged).view (hready e h.tracked))
      (fun _ => hready e h.tracked)⟩

end Replicon.Srv
