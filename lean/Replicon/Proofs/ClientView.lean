import Replicon.Proofs.Client
/-
What the client has for a server entity, as one record: `viewOf c se`.  Whether the client holds
the entity, which component kinds and values it has for it and its confirmed tick are fields of
that record, so what a function of `apply_update_message` does to all of them is one equation about
`viewOf`.  An entity that is not mapped and one mapped to an empty placeholder (`getMapped`) have
the same view.
The functions are made of two elementary changes, replacing the record of a live client entity
(`*_setEnt`) and spawning a mapped one (`mapFresh`): these come first, then the functions from
`getMapped` up to `applyChange`, and last `applyDespawn`, the only one that unmaps.
-/
namespace Replicon.Cli
open Replicon Replicon.Srv

/-- The client holds server entity `se`: it is mapped to a live client entity that carries `Replicated`
(`marked`). -/
def held (c : Client) (se : Nat) : Prop :=
  ∃ ce ent, aget c.s2c se = some ce ∧ aget c.world ce = some ent ∧ ent.marked = true

/-- What `ServerEntityMap` and Bevy's entity allocator guarantee: mapped client entities are alive, no two
server entities share one, and every live id is below `next`. -/
structure WF (c : Client) : Prop where
  alive : ∀ se ce, aget c.s2c se = some ce → (aget c.world ce).isSome = true
  inj : ∀ se se' ce, aget c.s2c se = some ce → aget c.s2c se' = some ce → se = se'
  bound : ∀ ce, (aget c.world ce).isSome = true → ce < c.next

/-- `client_to_server` is exactly the inverse of `server_to_client` -/
def TwoWay (c : Client) : Prop := ∀ se ce, aget c.c2s ce = some se ↔ aget c.s2c se = some ce

/-- The client's record for server entity `se`; the empty record if it is not mapped (a placeholder
reserved by `getMapped` is empty too, so the two look alike). -/
def viewOf (c : Client) (se : Nat) : CEnt :=
  match aget c.s2c se with
  | some ce => (aget c.world ce).getD {}
  | none => {}

theorem viewOf_mapped (c : Client) (se ce : Nat) (ent : CEnt) (h : aget c.s2c se = some ce)
    (hw : aget c.world ce = some ent) : viewOf c se = ent := by
  unfold viewOf
  rw [h]
  simp only [hw]
  rfl

theorem viewOf_unmapped (c : Client) (se : Nat) (h : aget c.s2c se = none) : viewOf c se = {} := by
  unfold viewOf
  rw [h]

theorem held_iff_view (c : Client) (se : Nat) : held c se ↔ (viewOf c se).marked = true := by
  unfold held viewOf
  constructor
  · rintro ⟨ce, ent, h1, h2, h3⟩
    rw [h1]; simp only [h2]; exact h3
  · intro h
    cases h1 : aget c.s2c se with
    | none => rw [h1] at h; cases h
    | some ce =>
      rw [h1] at h
      cases h2 : aget c.world ce with
      | none => simp only [h2] at h; cases h
      | some ent => simp only [h2] at h; exact ⟨ce, ent, rfl, h2, h⟩

/-- what the empty record does not have, the view of a despawned entity (`{}` under `C`) does not have either -/
theorem emptied_iff {C : Prop} [Decidable C] (P : CEnt → Prop) (h0 : ¬ P {}) (v : CEnt) :
    P (if C then {} else v) ↔ P v ∧ ¬ C := by
  split
  · rename_i hc; exact ⟨fun h => absurd h h0, fun h => absurd hc h.2⟩
  · rename_i hc; exact ⟨fun h => ⟨h, hc⟩, And.left⟩

/-- `WF` does not read the tick -/
theorem wf_setTick (c : Client) (t : Nat) (wf : WF c) : WF { c with updateTick := t } :=
  ⟨wf.alive, wf.inj, wf.bound⟩

theorem wf_setEnt (c : Client) (ce : Nat) (ent' : CEnt) (wf : WF c) (hal : (aget c.world ce).isSome = true) :
    WF { c with world := aset c.world ce ent' } := by
  refine ⟨fun se x hx => ?_, wf.inj, fun x hx => ?_⟩
  · show (aget (aset c.world ce ent') x).isSome = true
    rw [aget_aset]
    split
    · rfl
    · exact wf.alive se x hx
  · replace hx : (aget (aset c.world ce ent') x).isSome = true := hx
    rw [aget_aset] at hx
    split at hx
    · rename_i he; exact he ▸ wf.bound ce hal
    · exact wf.bound x hx

theorem viewOf_setEnt (c : Client) (ce : Nat) (ent' : CEnt) (se : Nat) :
    viewOf { c with world := aset c.world ce ent' } se = if aget c.s2c se = some ce then ent' else viewOf c se := by
  unfold viewOf
  show (match aget c.s2c se with
    | some x => (aget (aset c.world ce ent') x).getD {}
    | none => {}) = _
  cases hg : aget c.s2c se with
  | none => rw [if_neg (fun h => nomatch h)]
  | some x =>
    simp only [Option.some.injEq]
    rw [aget_aset]
    by_cases hx : x = ce
    · rw [if_pos hx, if_pos hx]; rfl
    · rw [if_neg hx, if_neg hx]

/-- `c'` extends `c`: what lived lives on under the same server entity and keeps its marker; what is new
(the placeholders `getMapped` reserves) is not marked, so `c'` holds the server entities `c` holds
(`Ext.held`). -/
structure Ext (c c' : Client) : Prop where
  wf : WF c'
  twoWay : TwoWay c → TwoWay c'
  s2c : ∀ se x, (aget c.world x).isSome = true → (aget c'.s2c se = some x ↔ aget c.s2c se = some x)
  world : ∀ x ent, aget c.world x = some ent → ∃ ent', aget c'.world x = some ent' ∧ ent'.marked = ent.marked
  newUnmarked : ∀ x ent', aget c.world x = none → aget c'.world x = some ent' → ent'.marked = false

theorem Ext.refl (c : Client) (wf : WF c) : Ext c c :=
  ⟨wf, id, fun _ _ _ => Iff.rfl, fun _ ent h => ⟨ent, h, rfl⟩, fun _ _ hn hs => nomatch hn.symm.trans hs⟩

theorem Ext.alive {c c' : Client} (h : Ext c c') (x : Nat) (hx : (aget c.world x).isSome = true) :
    (aget c'.world x).isSome = true := by
  cases hg : aget c.world x with
  | none => rw [hg] at hx; cases hx
  | some ent =>
    obtain ⟨_, h', _⟩ := h.world x ent hg
    rw [h']; rfl

theorem Ext.trans {a b c : Client} (h1 : Ext a b) (h2 : Ext b c) : Ext a c := by
  refine ⟨h2.wf, fun t => h2.twoWay (h1.twoWay t),
    fun se x hx => (h2.s2c se x (h1.alive x hx)).trans (h1.s2c se x hx), fun x ent h => ?_, fun x ent' hn hs => ?_⟩
  · obtain ⟨e1, g1, m1⟩ := h1.world x ent h
    obtain ⟨e2, g2, m2⟩ := h2.world x e1 g1
    exact ⟨e2, g2, m2.trans m1⟩
  · cases hb : aget b.world x with
    | none => exact h2.newUnmarked x ent' hb hs
    | some e1 =>
      obtain ⟨e2, g2, m2⟩ := h2.world x e1 hb
      cases g2.symm.trans hs
      exact m2.trans (h1.newUnmarked x e1 hn hb)

theorem Ext.held {c c' : Client} (h : Ext c c') (se : Nat) : held c' se ↔ held c se := by
  constructor
  · rintro ⟨x, ent', h1, h2, h3⟩
    cases hx : aget c.world x with
    | none => rw [h.newUnmarked x ent' hx h2] at h3; cases h3
    | some ent =>
      obtain ⟨e', g, m⟩ := h.world x ent hx
      cases g.symm.trans h2
      exact ⟨x, ent, (h.s2c se x (by rw [hx]; rfl)).mp h1, hx, m ▸ h3⟩
  · rintro ⟨x, ent, h1, h2, h3⟩
    obtain ⟨e', g, m⟩ := h.world x ent h2
    exact ⟨x, e', (h.s2c se x (by rw [h2]; rfl)).mpr h1, g, m.trans h3⟩

theorem Ext.mapped {c c' : Client} (h : Ext c c') (wf : WF c) (se x : Nat) (hm : aget c.s2c se = some x) :
    aget c'.s2c se = some x :=
  (h.s2c se x (wf.alive se x hm)).mpr hm

/-- What every step of `apply_update_message` but a despawn does to the entity map: `c'` is well-formed,
its map is two-way if that of `c` was, and every mapped server entity keeps its client entity. -/
structure MapExt (c c' : Client) : Prop where
  wf : WF c'
  twoWay : TwoWay c → TwoWay c'
  mapped : ∀ se x, aget c.s2c se = some x → aget c'.s2c se = some x

theorem MapExt.trans {a b c : Client} (h1 : MapExt a b) (h2 : MapExt b c) : MapExt a c :=
  ⟨h2.wf, fun t => h2.twoWay (h1.twoWay t), fun se x h => h2.mapped se x (h1.mapped se x h)⟩

theorem Ext.mapExt {c c' : Client} (h : Ext c c') (wf : WF c) : MapExt c c' :=
  ⟨h.wf, h.twoWay, h.mapped wf⟩

theorem setEnt_ext (c : Client) (ce : Nat) (ent ent' : CEnt) (wf : WF c) (hg : aget c.world ce = some ent)
    (hm : ent'.marked = ent.marked) : Ext c { c with world := aset c.world ce ent' } := by
  refine ⟨wf_setEnt c ce ent' wf (by rw [hg]; rfl), id, fun _ _ _ => Iff.rfl, fun x e hx => ?_, fun x e hn hs => ?_⟩
  · show ∃ e', aget (aset c.world ce ent') x = some e' ∧ _
    rw [aget_aset]
    split
    · rename_i he
      rw [he, hg] at hx
      exact ⟨ent', rfl, hm.trans (congrArg CEnt.marked (Option.some.inj hx))⟩
    · exact ⟨e, hx, rfl⟩
  · replace hs : aget (aset c.world ce ent') x = some e := hs
    rw [aget_aset] at hs
    split at hs
    · rename_i he; rw [he, hg] at hn; cases hn
    · rw [hn] at hs; cases hs

def mapFresh (c : Client) (se : Nat) (ent : CEnt) : Client :=
  mapInsert (spawnFresh c ent).1 se (spawnFresh c ent).2

theorem mapFresh_fields (c : Client) (se : Nat) (ent : CEnt) :
    (mapFresh c se ent).s2c = aset c.s2c se c.next ∧ (mapFresh c se ent).world = aset c.world c.next ent ∧
    (mapFresh c se ent).next = c.next + 1 ∧ (mapFresh c se ent).updateTick = c.updateTick := by
  unfold mapFresh mapInsert spawnFresh
  exact ⟨rfl, rfl, rfl, rfl⟩

theorem mapped_ne_next (c : Client) (wf : WF c) (se ce : Nat) (h : aget c.s2c se = some ce) : ce ≠ c.next :=
  fun he => Nat.lt_irrefl _ (he ▸ wf.bound ce (wf.alive se ce h))

theorem wf_mapFresh (c : Client) (se : Nat) (ent : CEnt) (wf : WF c) : WF (mapFresh c se ent) := by
  obtain ⟨f1, f2, f3, _⟩ := mapFresh_fields c se ent
  refine ⟨fun se' x hx => ?_, fun a b x h1 h2 => ?_, fun x hx => ?_⟩
  · rw [f1, aget_aset] at hx
    rw [f2, aget_aset]
    split at hx
    · rw [if_pos (Option.some.inj hx).symm]; rfl
    · rw [if_neg (mapped_ne_next c wf se' x hx)]; exact wf.alive se' x hx
  · rw [f1, aget_aset] at h1 h2
    split at h1 <;> split at h2
    · rename_i ha hb; rw [ha, hb]
    · exact absurd (Option.some.inj h1).symm (mapped_ne_next c wf b x h2)
    · exact absurd (Option.some.inj h2).symm (mapped_ne_next c wf a x h1)
    · exact wf.inj a b x h1 h2
  · rw [f3]
    rw [f2, aget_aset] at hx
    split at hx
    · rename_i he; rw [he]; exact Nat.lt_succ_self _
    · exact Nat.lt_succ_of_lt (wf.bound x hx)

theorem viewOf_mapFresh (c : Client) (se : Nat) (ent : CEnt) (wf : WF c) (se' : Nat) :
    viewOf (mapFresh c se ent) se' = if se' = se then ent else viewOf c se' := by
  obtain ⟨f1, f2, _, _⟩ := mapFresh_fields c se ent
  unfold viewOf
  rw [f1, f2, aget_aset]
  by_cases he : se' = se
  · rw [if_pos he, if_pos he]; simp only [aget_aset, if_true]; rfl
  · rw [if_neg he, if_neg he]
    cases hg : aget c.s2c se' with
    | none => rfl
    | some ce => simp only [aget_aset, if_neg (mapped_ne_next c wf se' ce hg)]

theorem mapFresh_twoWay (c : Client) (se : Nat) (ent : CEnt) (wf : WF c) (tw : TwoWay c) (hu : aget c.s2c se = none) :
    TwoWay (mapFresh c se ent) := by
  have m1 : (mapFresh c se ent).s2c = aset c.s2c se c.next := rfl
  have m2 : (mapFresh c se ent).c2s = aset c.c2s c.next se := by
    unfold mapFresh mapInsert spawnFresh
    simp only [hu]
  intro a b
  rw [m1, m2, aget_aset, aget_aset]
  by_cases hb : b = c.next
  · rw [if_pos hb]
    by_cases ha : a = se
    · rw [if_pos ha, ha, hb]; exact ⟨fun _ => rfl, fun _ => rfl⟩
    · rw [if_neg ha]
      exact ⟨fun h => absurd (Option.some.inj h).symm ha, fun h => absurd hb (mapped_ne_next c wf a b h)⟩
  · rw [if_neg hb]
    by_cases ha : a = se
    · rw [if_pos ha]
      constructor
      · intro h
        rw [ha] at h
        rw [(tw se b).mp h] at hu; cases hu
      · exact fun h => absurd (Option.some.inj h).symm hb
    · rw [if_neg ha]; exact tw a b

theorem mapFresh_ext (c : Client) (se : Nat) (ent : CEnt) (wf : WF c) (hu : aget c.s2c se = none)
    (hm : ent.marked = false) : Ext c (mapFresh c se ent) := by
  refine ⟨wf_mapFresh c se ent wf, fun tw => mapFresh_twoWay c se ent wf tw hu, fun se' x hal => ?_, fun x e hx => ?_,
    fun x e hn hs => ?_⟩
  · show aget (aset c.s2c se c.next) se' = some x ↔ _
    rw [aget_aset]
    split
    · rename_i he
      rw [he, hu]
      exact ⟨fun h => absurd (wf.bound x hal) (Option.some.inj h ▸ Nat.lt_irrefl _), fun h => nomatch h⟩
    · exact Iff.rfl
  · refine ⟨e, ?_, rfl⟩
    show aget (aset c.world c.next ent) x = some e
    rw [aget_aset, if_neg]
    · exact hx
    · exact fun he => Nat.lt_irrefl _ (he ▸ wf.bound x (by rw [hx]; rfl))
  · replace hs : aget (aset c.world c.next ent) x = some e := hs
    rw [aget_aset] at hs
    split at hs
    · exact Option.some.inj hs ▸ hm
    · rw [hn] at hs; cases hs

theorem getMapped_mapped (c : Client) (v ce : Nat) (h : aget c.s2c v = some ce) : getMapped c v = (c, ce) := by
  unfold getMapped
  rw [h]

theorem getMapped_unmapped (c : Client) (v : Nat) (h : aget c.s2c v = none) :
    getMapped c v = (mapFresh c v {}, c.next) := by
  unfold getMapped
  rw [h]
  rfl

/-- **`getMapped`**: the placeholder it reserves for an unmapped server entity is empty, so no view changes -/
theorem getMapped_effect (c : Client) (v : Nat) (wf : WF c) :
    Ext c (getMapped c v).1 ∧ ∀ se, viewOf (getMapped c v).1 se = viewOf c se := by
  cases hg : aget c.s2c v with
  | some ce =>
    rw [getMapped_mapped c v ce hg]
    exact ⟨Ext.refl c wf, fun _ => rfl⟩
  | none =>
    rw [getMapped_unmapped c v hg]
    refine ⟨mapFresh_ext c v {} wf hg rfl, fun se => ?_⟩
    show viewOf (mapFresh c v {}) se = _
    rw [viewOf_mapFresh c v {} wf]
    split
    · rename_i he; rw [he, viewOf_unmapped c v hg]
    · rfl

theorem confirm_effect (c : Client) (ce t : Nat) (wf : WF c) :
    Ext c (confirm c ce t) ∧
    ∀ se, viewOf (confirm c ce t) se =
      if aget c.s2c se = some ce then { viewOf c se with hist := some t } else viewOf c se := by
  unfold confirm
  cases hg : aget c.world ce with
  | none =>
    refine ⟨Ext.refl c wf, fun se => ?_⟩
    rw [if_neg]
    intro hm
    have := wf.alive se ce hm
    rw [hg] at this; cases this
  | some ent =>
    refine ⟨setEnt_ext c ce ent _ wf hg rfl, fun se => ?_⟩
    show viewOf { c with world := aset c.world ce { ent with hist := some t } } se = _
    rw [viewOf_setEnt]
    split
    · rename_i hm; rw [viewOf_mapped c se ce ent hm hg]
    · rfl

/-- one component of `writeComps` -/
def wstep (c : Client) (ce k v : Nat) : Client :=
  match aget (if c.entityComps.contains k then getMapped c v else (c, v)).1.world ce with
  | some ent =>
    { (if c.entityComps.contains k then getMapped c v else (c, v)).1 with
      world := aset (if c.entityComps.contains k then getMapped c v else (c, v)).1.world ce
        { ent with comps := aset ent.comps k (if c.entityComps.contains k then getMapped c v else (c, v)).2 } }
  | none => (if c.entityComps.contains k then getMapped c v else (c, v)).1

theorem writeComps_cons (c : Client) (ce k v : Nat) (rest : List (Nat × Nat)) :
    writeComps c ce ((k, v) :: rest) = writeComps (wstep c ce k v) ce rest := by
  unfold writeComps wstep
  rw [List.foldl_cons]
  congr 1

theorem wstep_ext (c : Client) (ce k0 v0 : Nat) (wf : WF c) : Ext c (wstep c ce k0 v0) := by
  unfold wstep
  have hp : Ext c (if c.entityComps.contains k0 then getMapped c v0 else (c, v0)).1 := by
    split
    · exact (getMapped_effect c v0 wf).1
    · exact Ext.refl c wf
  generalize (if c.entityComps.contains k0 then getMapped c v0 else (c, v0)) = p at hp ⊢
  cases hg1 : aget p.1.world ce with
  | none => exact hp
  | some ent1 => exact hp.trans (setEnt_ext p.1 ce ent1 _ hp.wf hg1 rfl)

theorem writeComps_ext (ce : Nat) (comps : List (Nat × Nat)) : ∀ (c : Client), WF c → Ext c (writeComps c ce comps) := by
  induction comps with
  | nil => exact fun c wf => Ext.refl c wf
  | cons kv rest ih =>
    intro c wf
    rw [writeComps_cons]
    exact (wstep_ext c ce kv.1 kv.2 wf).trans (ih _ (wstep_ext c ce kv.1 kv.2 wf).wf)

theorem viewOf_wstep (c : Client) (ce k0 v0 : Nat) (wf : WF c) (hal : (aget c.world ce).isSome = true) (se : Nat) :
    viewOf (wstep c ce k0 v0) se = if aget c.s2c se = some ce then
        { viewOf c se with
          comps := aset (viewOf c se).comps k0 (if c.entityComps.contains k0 then (getMapped c v0).2 else v0) }
      else viewOf c se := by
  unfold wstep
  have hp2 : (if c.entityComps.contains k0 then getMapped c v0 else (c, v0)).2 =
      (if c.entityComps.contains k0 then (getMapped c v0).2 else v0) := by
    split <;> rfl
  rw [← hp2]
  -- `p` is `c`, possibly with the placeholder `getMapped` reserved
  have hp : Ext c (if c.entityComps.contains k0 then getMapped c v0 else (c, v0)).1 ∧
      ∀ se, viewOf (if c.entityComps.contains k0 then getMapped c v0 else (c, v0)).1 se = viewOf c se := by
    split
    · exact getMapped_effect c v0 wf
    · exact ⟨Ext.refl c wf, fun _ => rfl⟩
  generalize (if c.entityComps.contains k0 then getMapped c v0 else (c, v0)) = p at hp ⊢
  obtain ⟨e1, v1⟩ := hp
  have hal1 := e1.alive ce hal
  cases hg1 : aget p.1.world ce with
  | none => rw [hg1] at hal1; cases hal1
  | some ent1 =>
    show viewOf { p.1 with world := aset p.1.world ce { ent1 with comps := aset ent1.comps k0 p.2 } } se = _
    rw [viewOf_setEnt]
    by_cases hm : aget c.s2c se = some ce
    · rw [if_pos ((e1.s2c se ce hal).mpr hm), if_pos hm, ← v1 se, viewOf_mapped p.1 se ce ent1 ((e1.s2c se ce hal).mpr hm) hg1]
    · rw [if_neg (fun h => hm ((e1.s2c se ce hal).mp h)), if_neg hm, v1 se]

/-- what `writeComps` wrote for a record: its components, entity-valued ones with mapped values -/
def Written (c : Client) : List (Nat × Nat) → List (Nat × Nat) → Prop
  | [], [] => True
  | w :: ws, kv :: comps => w.1 = kv.1 ∧ (c.entityComps.contains kv.1 = false → w.2 = kv.2) ∧ Written c ws comps
  | _, _ => False

theorem Written.congr (c c' : Client) (h : c'.entityComps = c.entityComps) : ∀ (ws comps : List (Nat × Nat)),
    Written c' ws comps → Written c ws comps
  | [], [], _ => trivial
  | _ :: ws, _ :: comps, hw => ⟨hw.1, by rw [← h]; exact hw.2.1, Written.congr c c' h ws comps hw.2.2⟩
  | [], _ :: _, hw => hw
  | _ :: _, [], hw => hw

theorem Written.keys (c : Client) : ∀ (ws comps : List (Nat × Nat)), Written c ws comps →
    ws.map (·.1) = comps.map (·.1)
  | [], [], _ => rfl
  | w :: ws, kv :: comps, h => by rw [List.map_cons, List.map_cons, h.1, Written.keys c ws comps h.2.2]
  | [], _ :: _, h => nomatch h
  | _ :: _, [], h => nomatch h

theorem Written.aget (c : Client) (k : Nat) (hplain : c.entityComps.contains k = false) :
    ∀ (ws comps : List (Nat × Nat)), Written c ws comps → aget ws k = aget comps k
  | [], [], _ => rfl
  | (wk, wv) :: ws, (k0, v0) :: comps, hw => by
    obtain rfl : wk = k0 := hw.1
    rw [aget_cons, aget_cons, Written.aget c k hplain ws comps hw.2.2]
    split
    · rename_i hk; exact congrArg some (hw.2.1 (hk ▸ hplain))
    · rfl
  | [], _ :: _, hw => nomatch hw
  | _ :: _, [], hw => nomatch hw

theorem viewOf_writeComps (ce : Nat) (comps : List (Nat × Nat)) : ∀ (c : Client), WF c → (aget c.world ce).isSome = true →
    ∃ ws, Written c ws comps ∧ ∀ se, viewOf (writeComps c ce comps) se = if aget c.s2c se = some ce then
        { viewOf c se with comps := ws.foldl (fun cs w => aset cs w.1 w.2) (viewOf c se).comps }
      else viewOf c se := by
  induction comps with
  | nil =>
    intro c _ _
    refine ⟨[], trivial, fun se => ?_⟩
    show viewOf c se = _
    split <;> rfl
  | cons kv rest ih =>
    intro c wf hal
    obtain ⟨k0, v0⟩ := kv
    rw [writeComps_cons]
    have e1 := wstep_ext c ce k0 v0 wf
    obtain ⟨ws, hws, v2⟩ := ih _ e1.wf (e1.alive ce hal)
    have hec : (wstep c ce k0 v0).entityComps = c.entityComps := by
      have h := (writeComps_same ce [(k0, v0)] c).entityComps
      rw [writeComps_cons] at h
      exact h
    refine ⟨(k0, if c.entityComps.contains k0 then (getMapped c v0).2 else v0) :: ws,
      ⟨rfl, fun hpl => ?_, Written.congr c _ hec ws rest hws⟩, fun se => ?_⟩
    · show (if c.entityComps.contains k0 = true then (getMapped c v0).2 else v0) = v0
      rw [if_neg (by rw [hpl]; exact Bool.false_ne_true)]
    · rw [v2 se, viewOf_wstep c ce k0 v0 wf hal se]
      by_cases hm : aget c.s2c se = some ce
      · rw [if_pos ((e1.s2c se ce hal).mpr hm), if_pos hm, if_pos hm]; rfl
      · rw [if_neg (fun h => hm ((e1.s2c se ce hal).mp h)), if_neg hm, if_neg hm]

/-- `se` is marked afterwards if asked, or if it was not mapped at all -/
theorem targetEntity_effect (c : Client) (se : Nat) (b : Bool) (wf : WF c) :
    ∃ c' ce, targetEntity c se b = .ok (c', ce) ∧ MapExt c c' ∧ aget c'.s2c se = some ce ∧
      ∀ se', viewOf c' se' = if se' = se then
          { viewOf c se with marked := (viewOf c se).marked || b || (aget c.s2c se).isNone }
        else viewOf c se' := by
  rcases targetEntity_cases c se b with ⟨hg, h'⟩ | ⟨ce, hg, hw, _⟩ | ⟨ce, ent, hg, hw, h'⟩
  · refine ⟨_, c.next, h', ⟨wf_mapFresh c se _ wf, fun tw => mapFresh_twoWay c se _ wf tw hg, fun se' x h => ?_⟩,
      aget_aset_same _ _ _, fun se' => ?_⟩
    · show aget (aset c.s2c se c.next) se' = some x
      rw [aget_aset, if_neg (fun he => by rw [he, hg] at h; cases h)]; exact h
    show viewOf (mapFresh c se { marked := true }) se' = _
    rw [viewOf_mapFresh c se _ wf, viewOf_unmapped c se hg, hg]
    simp
  · have := wf.alive se ce hg
    rw [hw] at this; cases this
  · have hv : viewOf c se = ent := viewOf_mapped c se ce ent hg hw
    rw [hv, hg]
    by_cases hcond : (b && !ent.marked) = true
    · rw [if_pos hcond] at h'
      refine ⟨_, ce, h', ⟨wf_setEnt c ce _ wf (wf.alive se ce hg), id, fun _ _ h => h⟩, hg, fun se' => ?_⟩
      rw [viewOf_setEnt]
      simp only [Bool.and_eq_true] at hcond
      by_cases he : se' = se
      · rw [if_pos (he ▸ hg), if_pos he, hcond.1]; simp
      · rw [if_neg (fun h => he (wf.inj se' se ce h hg)), if_neg he]
    · rw [if_neg hcond] at h'
      refine ⟨c, ce, h', ⟨wf, id, fun _ _ h => h⟩, hg, fun se' => ?_⟩
      split
      · rename_i he
        have hmk : (ent.marked || b || (some ce).isNone) = ent.marked := by
          cases b <;> cases hm : ent.marked <;> simp_all
        rw [hmk, he, hv]
      · rfl

theorem applyRemoval_effect (tick : Nat) (c : Client) (r : Nat × List Nat) (wf : WF c) :
    ∃ c', applyRemoval tick c r = some c' ∧ MapExt c c' ∧
      ∀ se, viewOf c' se = if se = r.1 then
          { marked := (viewOf c se).marked || (aget c.s2c se).isNone,
            comps := (viewOf c se).comps.filter (fun x => !r.2.contains x.1), hist := some tick }
        else viewOf c se := by
  obtain ⟨c1, ce, h1, m1, hs, v1⟩ := targetEntity_effect c r.1 false wf
  have hal := m1.wf.alive r.1 ce hs
  obtain ⟨e2, v2⟩ := confirm_effect c1 ce tick m1.wf
  have hal2 := e2.alive ce hal
  have hs2 := e2.mapped m1.wf r.1 ce hs
  have hiff : ∀ se, aget c1.s2c se = some ce ↔ se = r.1 := fun se => ⟨fun h => m1.wf.inj se r.1 ce h hs, fun h => h ▸ hs⟩
  unfold applyRemoval
  rw [h1]
  simp only
  cases hg : aget (confirm c1 ce tick).world ce with
  | none => rw [hg] at hal2; cases hal2
  | some ent =>
    have e3 := e2.trans (setEnt_ext _ ce ent { ent with comps := ent.comps.filter fun x => !r.2.contains x.1 } e2.wf hg rfl)
    refine ⟨_, rfl, m1.trans (e3.mapExt m1.wf), fun se => ?_⟩
    rw [viewOf_setEnt]
    have hent : ent = viewOf (confirm c1 ce tick) r.1 := (viewOf_mapped _ r.1 ce ent hs2 hg).symm
    by_cases he : se = r.1
    · rw [if_pos (he ▸ hs2), if_pos he, hent, v2 r.1, if_pos hs, v1 r.1, if_pos rfl, he]
      simp
    · rw [if_neg (fun h => he ((hiff se).mp ((e2.s2c se ce hal).mp h))), if_neg he, v2 se,
        if_neg (fun h => he ((hiff se).mp h)), v1 se, if_neg he]

/-- `confirm`, then `writeComps`: what an applied record of a mutate message does -/
theorem confirmWrite_effect (c : Client) (se ce tick : Nat) (comps : List (Nat × Nat)) (wf : WF c)
    (hs : aget c.s2c se = some ce) :
    Ext c (writeComps (confirm c ce tick) ce comps) ∧
    ∃ ws, Written c ws comps ∧ ∀ se', viewOf (writeComps (confirm c ce tick) ce comps) se' = if se' = se then
        { viewOf c se with comps := ws.foldl (fun cs w => aset cs w.1 w.2) (viewOf c se).comps, hist := some tick }
      else viewOf c se' := by
  have hal := wf.alive se ce hs
  obtain ⟨e2, v2⟩ := confirm_effect c ce tick wf
  obtain ⟨ws, hws, v3⟩ := viewOf_writeComps ce comps (confirm c ce tick) e2.wf (e2.alive ce hal)
  have hiff : ∀ se', aget c.s2c se' = some ce ↔ se' = se := fun se' => ⟨fun h => wf.inj se' se ce h hs, fun h => h ▸ hs⟩
  refine ⟨e2.trans (writeComps_ext ce comps _ e2.wf), ws,
    Written.congr c _ (confirm_same c ce tick).entityComps ws comps hws, fun se' => ?_⟩
  rw [v3 se', v2 se']
  by_cases he : se' = se
  · rw [if_pos ((e2.s2c se' ce hal).mpr ((hiff se').mpr he)), if_pos ((hiff se').mpr he), if_pos he, he]
  · rw [if_neg (fun h => he ((hiff se').mp ((e2.s2c se' ce hal).mp h))), if_neg (fun h => he ((hiff se').mp h)), if_neg he]

theorem applyChange_effect (tick : Nat) (c : Client) (m : MsgEnt) (wf : WF c) :
    ∃ c', applyChange tick c m = some c' ∧ MapExt c c' ∧
      ∃ ws, Written c ws m.comps ∧ ∀ se, viewOf c' se = if se = m.ent then
          { marked := true, comps := ws.foldl (fun cs w => aset cs w.1 w.2) (viewOf c m.ent).comps, hist := some tick }
        else viewOf c se := by
  obtain ⟨c1, ce, h1, m1, hs, v1⟩ := targetEntity_effect c m.ent true wf
  obtain ⟨e, ws, hws, v⟩ := confirmWrite_effect c1 m.ent ce tick m.comps m1.wf hs
  refine ⟨_, by unfold applyChange; rw [h1], m1.trans (e.mapExt m1.wf),
    ws, Written.congr c _ (targetEntity_same c m.ent true c1 ce h1).entityComps ws m.comps hws, fun se => ?_⟩
  rw [v se, v1 m.ent, if_pos rfl, v1 se]
  split
  · simp
  · rfl

def unmap (c : Client) (se ce : Nat) : Client :=
  { c with s2c := adel c.s2c se, c2s := adel c.c2s ce, world := adel c.world ce }

theorem applyDespawn_mapped (c : Client) (se ce : Nat) (h : aget c.s2c se = some ce) : applyDespawn c se = unmap c se ce := by
  unfold applyDespawn mapRemove
  rw [h]
  rfl

theorem applyDespawn_unmapped (c : Client) (se : Nat) (h : aget c.s2c se = none) : applyDespawn c se = c := by
  unfold applyDespawn mapRemove
  rw [h]

theorem mapped_ne (c : Client) (wf : WF c) (se0 ce0 : Nat) (hg : aget c.s2c se0 = some ce0) (se x : Nat) (hne : se ≠ se0)
    (hx : aget c.s2c se = some x) : x ≠ ce0 :=
  fun he => hne (wf.inj se se0 ce0 (he ▸ hx) hg)

theorem wf_unmap (c : Client) (se0 ce0 : Nat) (wf : WF c) (hg : aget c.s2c se0 = some ce0) : WF (unmap c se0 ce0) := by
  refine ⟨fun a x hx => ?_, fun a a' x h1 h2 => wf.inj a a' x (aget_adel_some h1).2 (aget_adel_some h2).2, fun x hx => ?_⟩
  · obtain ⟨hne, hx⟩ := aget_adel_some hx
    show (aget (adel c.world ce0) x).isSome = true
    rw [aget_adel, if_neg (mapped_ne c wf se0 ce0 hg a x hne hx)]
    exact wf.alive a x hx
  · replace hx : (aget (adel c.world ce0) x).isSome = true := hx
    rw [aget_adel] at hx
    split at hx
    · cases hx
    · exact wf.bound x hx

theorem viewOf_unmap (c : Client) (se0 ce0 : Nat) (wf : WF c) (hg : aget c.s2c se0 = some ce0) (se : Nat) :
    viewOf (unmap c se0 ce0) se = if se = se0 then {} else viewOf c se := by
  unfold viewOf
  show (match aget (adel c.s2c se0) se with
    | some ce => (aget (adel c.world ce0) ce).getD {}
    | none => {}) = _
  rw [aget_adel]
  by_cases he : se = se0
  · rw [if_pos he, if_pos he]
  · rw [if_neg he, if_neg he]
    cases hx : aget c.s2c se with
    | none => rfl
    | some x => simp only [aget_adel, if_neg (mapped_ne c wf se0 ce0 hg se x he hx)]

theorem unmap_twoWay (c : Client) (se0 ce0 : Nat) (wf : WF c) (tw : TwoWay c) (hg : aget c.s2c se0 = some ce0) :
    TwoWay (unmap c se0 ce0) := by
  intro se ce
  show aget (adel c.c2s ce0) ce = some se ↔ aget (adel c.s2c se0) se = some ce
  constructor <;> intro h <;> obtain ⟨h1, h⟩ := aget_adel_some h
  · have h' := (tw se ce).mp h
    have hne : se ≠ se0 := fun he => h1 (Option.some.inj ((he ▸ h' : aget c.s2c se0 = some ce).symm.trans hg))
    rw [aget_adel_other _ _ _ hne]
    exact h'
  · rw [aget_adel_other _ _ _ (mapped_ne c wf se0 ce0 hg se ce h1 h)]
    exact (tw se ce).mpr h

theorem applyDespawn_wf (c : Client) (se0 : Nat) (wf : WF c) : WF (applyDespawn c se0) := by
  cases hg : aget c.s2c se0 with
  | none => rw [applyDespawn_unmapped c se0 hg]; exact wf
  | some ce0 => rw [applyDespawn_mapped c se0 ce0 hg]; exact wf_unmap c se0 ce0 wf hg

theorem applyDespawn_twoWay (c : Client) (se0 : Nat) (wf : WF c) (tw : TwoWay c) : TwoWay (applyDespawn c se0) := by
  cases hg : aget c.s2c se0 with
  | none => rw [applyDespawn_unmapped c se0 hg]; exact tw
  | some ce0 => rw [applyDespawn_mapped c se0 ce0 hg]; exact unmap_twoWay c se0 ce0 wf tw hg

theorem applyDespawn_s2c (c : Client) (se0 se : Nat) :
    aget (applyDespawn c se0).s2c se = if se = se0 then none else aget c.s2c se := by
  cases hg : aget c.s2c se0 with
  | none =>
    rw [applyDespawn_unmapped c se0 hg]
    split
    · rename_i he; rw [he, hg]
    · rfl
  | some ce0 => rw [applyDespawn_mapped c se0 ce0 hg]; exact aget_adel _ _ _

theorem viewOf_applyDespawn (c : Client) (se0 : Nat) (wf : WF c) (se : Nat) :
    viewOf (applyDespawn c se0) se = if se = se0 then {} else viewOf c se := by
  cases hg : aget c.s2c se0 with
  | none =>
    rw [applyDespawn_unmapped c se0 hg]
    split
    · rename_i he; rw [he, viewOf_unmapped c se0 hg]
    · rfl
  | some ce0 => rw [applyDespawn_mapped c se0 ce0 hg]; exact viewOf_unmap c se0 ce0 wf hg se

end Replicon.Cli
