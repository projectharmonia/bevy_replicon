import Replicon.Proofs.Kinds
/-
The component kinds a receiver has for every entity it holds, along a session: the ghost
`ghostKinds` replays the DESPAWNS / REMOVALS / CHANGES records of the session's update messages for
one entity; over all histories it is exactly the set of replicated kinds the server entity
carries after every replication run.
-/
namespace Replicon.Srv

def remKinds (u : Update) (e : Nat) : List Nat := (u.removals.filter fun r => r.1 = e).flatMap (·.2)
def chgKinds (u : Update) (e : Nat) : List Nat :=
  (u.changes.filter fun r => r.ent = e).flatMap fun r => r.comps.map (·.1)

/-- what the message does to the kinds a receiver has for entity `e`, in the order of the sections:
DESPAWNS, REMOVALS, CHANGES -/
def stepKinds (S : List Nat) (u : Update) (e : Nat) : List Nat :=
  ((if u.despawns.contains e then [] else S).filter fun k => !(remKinds u e).contains k) ++ chgKinds u e

def ghostKinds (l : List Update) (e : Nat) : List Nat := l.foldl (fun S u => stepKinds S u e) []

theorem mem_stepKinds (S : List Nat) (u : Update) (e k : Nat) :
    k ∈ stepKinds S u e ↔ ((e ∉ u.despawns ∧ k ∈ S) ∧ k ∉ remKinds u e) ∨ k ∈ chgKinds u e := by
  unfold stepKinds
  rw [List.mem_append, List.mem_filter]
  simp only [Bool.not_eq_true', List.contains_eq_mem, decide_eq_false_iff_not]
  by_cases hd : e ∈ u.despawns
  · simp [hd]
  · simp [hd]

theorem ghostKinds_append (l : List Update) (u : Update) (e : Nat) :
    ghostKinds (l ++ [u]) e = stepKinds (ghostKinds l e) u e := by
  unfold ghostKinds
  rw [List.foldl_append]
  rfl

theorem mem_remKinds (u : Update) (e k : Nat) :
    k ∈ remKinds u e ↔ ∃ ks, (e, ks) ∈ u.removals ∧ k ∈ ks := by
  unfold remKinds
  rw [List.mem_flatMap]
  constructor
  · rintro ⟨r, hr, hk⟩
    rw [List.mem_filter] at hr
    have : r.1 = e := by simpa using hr.2
    exact ⟨r.2, by rw [← this]; exact hr.1, hk⟩
  · rintro ⟨ks, hm, hk⟩
    exact ⟨(e, ks), List.mem_filter.mpr ⟨hm, by simp⟩, hk⟩

theorem mem_chgKinds (u : Update) (e k : Nat) :
    k ∈ chgKinds u e ↔ ∃ r, r ∈ u.changes ∧ r.ent = e ∧ k ∈ r.comps.map (·.1) := by
  unfold chgKinds
  rw [List.mem_flatMap]
  constructor
  · rintro ⟨r, hr, hk⟩
    rw [List.mem_filter] at hr
    exact ⟨r, hr.1, by simpa using hr.2, hk⟩
  · rintro ⟨r, hm, he, hk⟩
    exact ⟨r, List.mem_filter.mpr ⟨hm, by simp [he]⟩, hk⟩

/-- so a frame without an update message is a frame whose (unsent) message is `runUpdate` all the same -/
theorem stepKinds_of_isEmpty (S : List Nat) (u : Update) (e : Nat) (h : u.isEmpty = true) : stepKinds S u e = S := by
  unfold stepKinds remKinds chgKinds
  rw [Update.despawns_of_isEmpty h, Update.removals_of_isEmpty h, Update.changes_of_isEmpty h]
  simp

theorem ghostKinds_run (l : List Update) (s : Server) (thisRun : Nat) (cl : Cli) (e : Nat) :
    ghostKinds (match (runClient s thisRun cl).2.update with
      | some u => l ++ [u]
      | none => l) e = stepKinds (ghostKinds l e) (runUpdate s thisRun cl) e := by
  cases hu : (runClient s thisRun cl).2.update with
  | none => exact (stepKinds_of_isEmpty _ _ _ (runClient_update_none hu)).symm
  | some u => rw [← runClient_update_some hu]; exact ghostKinds_append l u e

theorem mem_remKinds_run (s : Server) (thisRun : Nat) (cl : Cli) (hn : (s.removalBuf.map (·.1)).Nodup) (e k : Nat) :
    k ∈ remKinds (runUpdate s thisRun cl) e ↔
      Vis.isVisible s.white (cell (runCl1 s cl) e) = true ∧ k ∈ (aget s.removalBuf e).getD [] := by
  rw [mem_remKinds]
  unfold runUpdate
  simp only
  constructor
  · rintro ⟨ks, hm, hk⟩
    rw [List.mem_filter] at hm
    have := aget_of_mem_nodup s.removalBuf e ks hn hm.1
    rw [this]
    exact ⟨hm.2, hk⟩
  · rintro ⟨hv, hk⟩
    cases hg : aget s.removalBuf e with
    | none => rw [hg] at hk; cases hk
    | some ks =>
      rw [hg] at hk
      exact ⟨ks, List.mem_filter.mpr ⟨mem_of_aget _ _ _ hg, hv⟩, hk⟩

theorem mem_chgKinds_run (s : Server) (thisRun : Nat) (cl : Cli) (e k : Nat) :
    k ∈ chgKinds (runUpdate s thisRun cl) e ↔ ∃ ent m, (e, ent) ∈ s.world ∧ ent.marker = some m ∧
      k ∈ recordKinds (collectEntity s thisRun (runCl1 s cl) e ent m) := by
  rw [mem_chgKinds]
  show (∃ r, r ∈ (entityOuts s thisRun (runCl1 s cl)).filterMap (fun x => x.2.toUpdate) ∧ _) ↔ _
  constructor
  · rintro ⟨r, hm, rfl, hk⟩
    obtain ⟨e', ent, m, h1, h2, hr⟩ := (mem_records s thisRun _ EntOut.toUpdate r).mp hm
    obtain rfl := toUpdate_ent s thisRun _ e' ent m r hr
    exact ⟨ent, m, h1, h2, (mem_recordKinds _ k).mpr ⟨r, hr, hk⟩⟩
  · rintro ⟨ent, m, h1, h2, hk⟩
    obtain ⟨r, hr, hk⟩ := (mem_recordKinds _ k).mp hk
    exact ⟨r, (mem_records s thisRun _ EntOut.toUpdate r).mpr ⟨e, ent, m, h1, h2, hr⟩,
      toUpdate_ent s thisRun _ e ent m r hr, hk⟩

theorem mem_chgKinds_run_of (s : Server) (thisRun : Nat) (cl : Cli) (hn : (s.world.map (·.1)).Nodup) (e : Nat)
    (ent : SEnt) (m : Nat) (hw : (e, ent) ∈ s.world) (hm : ent.marker = some m) (k : Nat) :
    k ∈ chgKinds (runUpdate s thisRun cl) e ↔ k ∈ recordKinds (collectEntity s thisRun (runCl1 s cl) e ent m) := by
  rw [mem_chgKinds_run]
  constructor
  · rintro ⟨ent', m', w1, w2, w3⟩
    obtain rfl := mem_unique s.world hn e ent ent' hw w1
    rw [hm] at w2
    obtain rfl := Option.some.inj w2
    exact w3
  · exact fun h => ⟨ent, m, hw, hm, h⟩

/-- Ghost invariant for one client ("client kinds"); `G e` are the kinds the receiver has for entity `e`.
For a tracked entity that is not waiting in the despawn buffer (`kept`): its marker is older than the
last run (so the next run does not send it whole); a kind the receiver has and the entity has lost is
the subject of a removal on its way (`pendK`); a component the receiver lacks was inserted after the
last run (so the next run sends it). -/
structure CK (s : Server) (cl : Cli) (G : Nat → List Nat) : Prop where
  none : ∀ e, e ∉ keys cl → G e = []
  rate : ∀ e k, k ∈ G e → s.rates.any (·.1 = k) = true
  kept : ∀ e, e ∈ keys cl → e ∉ s.despawnBuf → ∀ ent, (e, ent) ∈ s.world →
    (∃ m, ent.marker = some m ∧ ¬ m > s.lastRun) ∧
    (∀ k, k ∈ G e → k ∉ presentKinds s ent → pendK s e k) ∧
    (∀ k r c, (k, r, c) ∈ present s ent → k ∉ G e → c.added > s.lastRun)

theorem CK.markerOld {s : Server} {cl : Cli} {G : Nat → List Nat} (ck : CK s cl G) {e : Nat} (hk : e ∈ keys cl)
    (hnd : e ∉ s.despawnBuf) {ent : SEnt} (hw : (e, ent) ∈ s.world) : ∃ m, ent.marker = some m ∧ ¬ m > s.lastRun :=
  (ck.kept e hk hnd ent hw).1

theorem CK.lostPending {s : Server} {cl : Cli} {G : Nat → List Nat} (ck : CK s cl G) {e : Nat} (hk : e ∈ keys cl)
    (hnd : e ∉ s.despawnBuf) {ent : SEnt} (hw : (e, ent) ∈ s.world) :
    ∀ k, k ∈ G e → k ∉ presentKinds s ent → pendK s e k :=
  (ck.kept e hk hnd ent hw).2.1

theorem CK.missingFresh {s : Server} {cl : Cli} {G : Nat → List Nat} (ck : CK s cl G) {e : Nat} (hk : e ∈ keys cl)
    (hnd : e ∉ s.despawnBuf) {ent : SEnt} (hw : (e, ent) ∈ s.world) :
    ∀ k r c, (k, r, c) ∈ present s ent → k ∉ G e → c.added > s.lastRun :=
  (ck.kept e hk hnd ent hw).2.2

theorem presentKinds_rate (s : Server) (ent : SEnt) (k : Nat) (h : k ∈ presentKinds s ent) :
    s.rates.any (·.1 = k) = true := by
  obtain ⟨r, c, hp⟩ := (mem_presentKinds s ent k).mp h
  have := ((mem_present s ent k r c).mp hp).1
  rw [List.any_eq_true]
  exact ⟨(k, r), this, by simp⟩

/-- `run_kinds_known` with its hypotheses from the invariants -/
theorem kept_kinds (p : Server) (cl : Cli) (G : Nat → List Nat) (sinv : CliSync p.white p.world p.despawnBuf cl)
    (kinv : KindInv p) (hwn : (p.world.map (·.1)).Nodup) (hp1 : p.pendingRem = []) (hp2 : p.pendingRemOld = [])
    (ck : CK p cl G) (e : Nat) (hk : e ∈ keys (runCl1 p cl)) (ent : SEnt) (hw : (e, ent) ∈ p.world) (thisRun k : Nat) :
    k ∈ stepKinds (G e) (runUpdate p thisRun cl) e ↔ k ∈ presentKinds p ent := by
  have kept := kept_of_sync p cl sinv e hk
  obtain ⟨t, ht⟩ := Option.isSome_iff_exists.mp ((aget_isSome_iff (runCl1 p cl).mutTick e).mpr hk)
  obtain ⟨m, hm, hold⟩ := ck.markerOld kept.tracked kept.notBuffered hw
  have hv : Vis.isVisible p.white (cell (runCl1 p cl) e) = true :=
    (visState_ne_hidden_iff p _ e).mp (by rw [kept.visible]; intro h; cases h)
  -- `run_kinds_known` speaks of the removal buffer and the entity's record, `stepKinds` of the message
  refine Iff.trans ?_ (run_kinds_known p thisRun (runCl1 p cl) e ent m t (G e) kept.visible ht hold ?_
    (ck.missingFresh kept.tracked kept.notBuffered hw) ?_ k)
  · -- the entity is visible and not in DESPAWNS: the two sides say the same
    rw [mem_stepKinds, List.mem_append, List.mem_filter_not_contains, mem_remKinds_run p _ cl kinv.remNodup,
      mem_chgKinds_run_of p _ cl hwn e ent m hw hm]
    exact or_congr_left ⟨fun h => ⟨h.1.2, fun hr => h.2 ⟨hv, hr⟩⟩, fun h => ⟨⟨kept.notDespawned, h.1⟩, fun hr => h.2 hr.2⟩⟩
  · -- after `buffer_removals` a pending removal is a buffered one
    intro k hkG hkP
    rcases ck.lostPending kept.tracked kept.notBuffered hw k hkG hkP with h | h | h
    · rw [hp1] at h; cases h
    · rw [hp2] at h; cases h
    · exact h
  · exact fun k r c hrm hpr => kinv.remFresh e ent k c hw (Or.inr (Or.inr hrm)) ((mem_present p ent k r c).mp hpr).2

theorem new_kinds (p : Server) (cl : Cli) (thisRun : Nat) (e : Nat)
    (hk : e ∉ keys (runCl1 p cl)) (hb : e ∈ runBumped p thisRun cl) (hn : (p.world.map (·.1)).Nodup)
    (ent : SEnt) (hw : (e, ent) ∈ p.world) (k : Nat) :
    k ∈ chgKinds (runUpdate p thisRun cl) e ↔ k ∈ presentKinds p ent := by
  obtain ⟨ent', m, h1, h2, h3⟩ := (mem_runBumped p thisRun cl e).mp hb
  obtain rfl := mem_unique p.world hn e ent ent' hw h1
  rw [mem_chgKinds_run_of p _ cl hn e ent m hw h2,
    run_kinds_new p thisRun (runCl1 p cl) e ent m (collect_bump_visible p thisRun _ e ent m h3) (aget_none_of_not_mem _ _ hk)]

structure GhostExact (p : Server) (cl : Cli) (G : Nat → List Nat) : Prop where
  none : ∀ e, e ∉ keys cl → G e = []
  rate : ∀ e k, k ∈ G e → p.rates.any (·.1 = k) = true
  exact : ∀ e, e ∈ keys cl → ∀ ent, (e, ent) ∈ p.world → ∀ k, k ∈ G e ↔ k ∈ presentKinds p ent

theorem ran_kinds (p : Server) (parts : Nat → List (List Nat)) (sinv : SyncInv p) (kinv : KindInv p)
    (hp1 : p.pendingRem = []) (hp2 : p.pendingRemOld = [])
    (x : Nat × Cli) (hx : x ∈ p.clients) (ha : x.2.authorized = true) (G : Nat → List Nat) (ck : CK p x.2 G) :
    GhostExact p (ranClient p parts x).2 fun e => stepKinds (G e) (runUpdate p (p.now + 1) x.2) e := by
  unfold ranClient
  rw [if_pos ha]
  have csync := sinv.sync x hx
  -- for an entity that is not kept through `collect_despawns` only the CHANGES records count: it
  -- was not tracked (the ghost has nothing for it) or it is in DESPAWNS
  have hdrop : ∀ e k, e ∉ keys (runCl1 p x.2) →
      (k ∈ stepKinds (G e) (runUpdate p (p.now + 1) x.2) e ↔ k ∈ chgKinds (runUpdate p (p.now + 1) x.2) e) := by
    intro e k hn1
    rw [mem_stepKinds]
    refine or_iff_right fun h => ?_
    by_cases hkc : e ∈ keys x.2
    · exact h.1.1 (dropped_despawned p x.2 csync e hkc hn1)
    · rw [ck.none e hkc] at h; exact nomatch h.1.2
  have hchg : ∀ e k, k ∈ chgKinds (runUpdate p (p.now + 1) x.2) e →
      e ∈ runBumped p (p.now + 1) x.2 ∧ ∃ ent, k ∈ presentKinds p ent := by
    intro e k hc
    obtain ⟨ent, m, h1, h2, h3⟩ := (mem_chgKinds_run p _ x.2 e k).mp hc
    obtain ⟨r, hr, _⟩ := (mem_recordKinds _ k).mp h3
    exact ⟨(mem_runBumped p _ x.2 e).mpr ⟨ent, m, h1, h2, toUpdate_bump p _ _ e ent m r hr⟩,
      ent, recordKinds_sub_present p _ _ e ent m k h3⟩
  refine ⟨fun e hne => ?_, fun e k hk => ?_, fun e hke ent hw k => ?_⟩
  · rw [afterRun_keys, not_or] at hne
    exact List.eq_nil_iff_forall_not_mem.mpr fun k hk => hne.2 (hchg e k ((hdrop e k hne.1).mp hk)).1
  · rcases (mem_stepKinds _ _ _ _).mp hk with h | hc
    · exact ck.rate e k h.1.2
    · obtain ⟨_, ent, hp⟩ := hchg e k hc
      exact presentKinds_rate p ent k hp
  · by_cases hk1 : e ∈ keys (runCl1 p x.2)
    · exact kept_kinds p x.2 G csync kinv sinv.worldNodup hp1 hp2 ck e hk1 ent hw (p.now + 1) k
    · rw [hdrop e k hk1]
      exact new_kinds p x.2 (p.now + 1) e hk1 (((afterRun_keys ..).mp hke).resolve_left hk1) sinv.worldNodup ent hw k

/-- **A frame without an update message**: nothing changes for the receiver, and that is right -/
theorem ran_kinds_none (p : Server) (parts : Nat → List (List Nat)) (sinv : SyncInv p) (kinv : KindInv p)
    (hp1 : p.pendingRem = []) (hp2 : p.pendingRemOld = [])
    (x : Nat × Cli) (hx : x ∈ p.clients) (ha : x.2.authorized = true) (G : Nat → List Nat) (ck : CK p x.2 G)
    (hu : (runClient p (p.now + 1) x.2).2.update = none) :
    (∀ e, e ∉ keys (ranClient p parts x).2 → G e = []) ∧
    (∀ e, e ∈ keys (ranClient p parts x).2 → ∀ ent, (e, ent) ∈ p.world →
      ∀ k, k ∈ G e ↔ k ∈ presentKinds p ent) := by
  have h := ran_kinds p parts sinv kinv hp1 hp2 x hx ha G ck
  have n1 := h.none
  have n3 := h.exact
  simp only [stepKinds_of_isEmpty _ _ _ (runClient_update_none hu)] at n1 n3
  exact ⟨n1, n3⟩

theorem putEnt_ck (s : Server) (kinv : KindInv s) (cl : Cli) (G : Nat → List Nat) (ck : CK s cl G)
    (e : Nat) (ent ent' : SEnt) (rem : List Nat) (hg : aget s.world e = some ent)
    (hc : CompsStep s.now ent.comps ent'.comps rem)
    (hm : e ∈ keys cl → e ∉ s.despawnBuf → ent'.marker = ent.marker) : CK (s.putEnt e ent' rem) cl G := by
  refine ⟨ck.none, ck.rate, ?_⟩
  intro e' hk hnd x hx
  rcases (mem_aset _ _ _ _).mp hx with h | ⟨h, _⟩
  · obtain ⟨rfl, rfl⟩ := Prod.mk.inj h
    have hw := mem_of_aget _ _ _ hg
    refine ⟨by rw [hm hk hnd]; exact ck.markerOld hk hnd hw, ?_, ?_⟩
    · intro k hkG hkP
      apply (pendK_putEnt s e' x rem e' k).mpr
      by_cases hP : k ∈ presentKinds s ent
      · obtain ⟨r, c, hpr⟩ := (mem_presentKinds s ent k).mp hP
        obtain ⟨hr, hcg⟩ := (mem_present s ent k r c).mp hpr
        cases hk' : aget x.comps k with
        | some c' => exact absurd ((mem_presentKinds s x k).mpr ⟨r, c', (mem_present s x k r c').mpr ⟨hr, hk'⟩⟩) hkP
        | none =>
          rcases hc.lost k hk' with h | h
          · rw [hcg] at h; cases h
          · exact Or.inr ⟨rfl, h⟩
      · exact Or.inl (ck.lostPending hk hnd hw k hkG hP)
    · intro k r c' hp hkG
      obtain ⟨hr, hcg⟩ := (mem_present s x k r c').mp hp
      rcases hc.stamp k c' hcg with ⟨c0, h0, he⟩ | h
      · rw [← he]; exact ck.missingFresh hk hnd hw k r c0 ((mem_present s ent k r c0).mpr ⟨hr, h0⟩) hkG
      · rw [h]; exact kinv.tlt
  · exact ⟨ck.markerOld hk hnd h,
      fun k hkG hkP => (pendK_putEnt s e ent' rem e' k).mpr (Or.inl (ck.lostPending hk hnd h k hkG hkP)),
      ck.missingFresh hk hnd h⟩

theorem leave_ck (s : Server) (e : Nat) (cl : Cli) (G : Nat → List Nat) (ck : CK s cl G) :
    CK (s.leaveReplication e) cl G := by
  cases hr : s.running with
  | false => rw [leave_stopped s e hr]; exact ck
  | true =>
    rw [leave_running s e hr]
    refine ⟨ck.none, ck.rate, ?_⟩
    intro e' hk hnd x hx
    have hne : e' ≠ e := fun h => hnd (List.mem_append_right _ (List.mem_singleton.mpr h))
    have hnd' : e' ∉ s.despawnBuf := fun h => hnd (List.mem_append_left _ h)
    refine ⟨ck.markerOld hk hnd' hx, fun k hkG hkP => ?_, ck.missingFresh hk hnd' hx⟩
    rcases ck.lostPending hk hnd' hx k hkG hkP with h | h | h
    · exact Or.inl h
    · exact Or.inr (Or.inl h)
    · refine Or.inr (Or.inr ?_)
      show k ∈ (aget (adel s.removalBuf e) e').getD []
      rw [aget_adel_other _ _ _ hne]; exact h

theorem delEnt_ck (s : Server) (e : Nat) (cl : Cli) (G : Nat → List Nat) (ck : CK s cl G) :
    CK { s with world := adel s.world e } cl G :=
  ⟨ck.none, ck.rate, fun e' hk hnd x hx => ck.kept e' hk hnd x ((mem_adel _ _ _).mp hx).1⟩

/-- a tracked entity that is not in the despawn buffer carries the marker (`csync`), so `mark` does
not touch it -/
theorem WorldOp.ck {s s' : Server} (h : WorldOp s s') (kinv : KindInv s) (hwn : (s.world.map (·.1)).Nodup)
    (cl : Cli) (G : Nat → List Nat) (ck : CK s cl G) (csync : CliSync s.white s.world s.despawnBuf cl)
    (hstop : s.running = false → cl.mutTick = []) : CK s' cl G := by
  cases h with
  | none => exact ck
  | comps e ent cs rem hg hc => exact putEnt_ck s kinv cl G ck e ent _ rem hg hc (fun _ _ => rfl)
  | markOn e ent hg hm =>
    refine putEnt_ck s kinv cl G ck e ent _ [] hg (CompsStep.refl _ _) (fun hk hnd => ?_)
    rcases csync.markedOrBuffered hk with h | h
    · rw [marked_of_aget _ hwn _ _ hg, hm] at h; cases h
    · exact absurd h hnd
  | markOff e ent hg hm =>
    refine putEnt_ck _ (leave_kind s e kinv) cl G (leave_ck s e cl G ck) e ent _ []
      (by rw [leave_world]; exact hg) (CompsStep.refl _ _) (fun hk hnd => ?_)
    exfalso
    cases hr : s.running with
    | true => exact hnd (by rw [leave_running s e hr]; exact List.mem_append_right _ (List.mem_singleton.mpr rfl))
    | false => unfold keys at hk; rw [hstop hr] at hk; cases hk
  | despawn e ent hg =>
    split
    · exact delEnt_ck _ e cl G (leave_ck s e cl G ck)
    · exact delEnt_ck s e cl G ck

theorem CK.nokeys {s s' : Server} {cl : Cli} {G : Nat → List Nat} (ck : CK s cl G) (hk : cl.mutTick = [])
    (hr : s'.rates = s.rates) : CK s' cl G := by
  refine ⟨ck.none, fun e k h => by rw [hr]; exact ck.rate e k h, ?_⟩
  intro e he
  unfold keys at he
  rw [hk] at he
  cases he

theorem spawn_ck (s : Server) (e : Nat) (m : Bool) (cs : List (Nat × Nat)) (hf : e ∉ s.world.map (·.1))
    (cl : Cli) (G : Nat → List Nat) (ck : CK s cl G) (csync : CliSync s.white s.world s.despawnBuf cl) :
    CK (s.spawn e m cs) cl G := by
  unfold Server.spawn
  refine ⟨ck.none, ck.rate, fun e' hk hnd x hx => ?_⟩
  rcases (mem_aset _ _ _ _).mp hx with h | ⟨h, _⟩
  · -- a tracked entity is in the world or in the despawn buffer: it is not the new one
    obtain ⟨rfl, _⟩ := Prod.mk.inj h
    rcases csync.markedOrBuffered hk with ⟨ent, hm, _⟩ | h
    · exact absurd (List.mem_map_of_mem (f := (·.1)) hm) hf
    · exact absurd h hnd
  · exact ck.kept e' hk hnd x h

/-- a pending removal event of a tracked entity moves into the removal buffer -/
theorem preRun_ck (s : Server) (ticked : Bool) (ms : Nat) (hr : s.running = true) (hwn : (s.world.map (·.1)).Nodup)
    (cl : Cli) (G : Nat → List Nat) (ck : CK s cl G) : CK (preRun s ticked ms) cl G := by
  rw [preRun_eq]
  refine ⟨ck.none, ck.rate, fun e hk hnd x hx => ?_⟩
  refine ⟨ck.markerOld hk hnd hx, fun k hkG hkP => ?_, ck.missingFresh hk hnd hx⟩
  obtain ⟨m, hmm, _⟩ := ck.markerOld hk hnd hx
  have hcond : bufCond s e k := ⟨x, aget_of_mem_nodup _ _ _ hwn hx, by rw [hmm]; rfl, ck.rate e k hkG⟩
  refine Or.inr (Or.inr ?_)
  rw [show (_ : Server).removalBuf = _ from if_pos hr, bufFold_spec]
  rcases ck.lostPending hk hnd hx k hkG hkP with h | h | h
  · exact Or.inr ⟨List.mem_append_right _ h, hcond⟩
  · exact Or.inr ⟨List.mem_append_left _ h, hcond⟩
  · exact Or.inl h

theorem ck_after_run (p : Server) (parts : Nat → List (List Nat)) (cl' : Cli) (G' : Nat → List Nat)
    (sinv : SyncInv p) (kinv : KindInv p) (hview : ∀ e, e ∈ keys cl' → marked p.world e) (h : GhostExact p cl' G') :
    CK (ranFrame p parts) cl' G' := by
  refine ⟨h.none, h.rate, fun e hk _ x hx => ?_⟩
  obtain ⟨ent, hm, hs⟩ := hview e hk
  cases mem_unique p.world sinv.worldNodup e x ent hx hm
  refine ⟨?_, fun k hkG hkP => absurd ((h.exact e hk x hx k).mp hkG) hkP,
    fun k r c hp hkG => absurd ((h.exact e hk x hx k).mpr ((mem_presentKinds p x k).mpr ⟨r, c, hp⟩)) hkG⟩
  cases hmk : x.marker with
  | none => rw [hmk] at hs; cases hs
  | some m => exact ⟨m, rfl, Nat.not_lt.mpr (Nat.le_succ_of_le ((kinv.stamps e x hx).2 m hmk))⟩

theorem CK.transport {s : Server} {cl cl' : Cli} {G : Nat → List Nat} (ck : CK s cl G)
    (hk : ∀ j, j ∈ keys cl' ↔ j ∈ keys cl) : CK s cl' G :=
  ⟨fun e he => ck.none e (fun h => he ((hk e).mpr h)), ck.rate,
   fun e he hnd x hx => ck.kept e ((hk e).mp he) hnd x hx⟩

theorem CK.transport_clients {s : Server} {cl : Cli} {G : Nat → List Nat} (ck : CK s cl G) (cs : List (Nat × Cli)) (r : Bool) :
    CK { s with clients := cs, running := r } cl G :=
  ⟨ck.none, ck.rate, ck.kept⟩

theorem ck_empty (s : Server) (cl : Cli) (hk : cl.mutTick = []) : CK s cl (fun _ => []) := by
  refine ⟨fun _ _ => rfl, ?_, ?_⟩
  · intro e k h; cases h
  · intro e he
    unfold keys at he
    rw [hk] at he; cases he

end Replicon.Srv

namespace Replicon.Joint
open Replicon.Srv Replicon.Cli

def ghostOf (log : Log) (c : Nat) : Nat → List Nat := fun e => ghostKinds (log c) e

/-- The session invariant with component kinds: `SessInv`, `KindInv` and, per client, `CK` for the ghost
replayed from the client's log. -/
structure KSess (st : St) (log : Log) : Prop where
  sess : SessInv st log
  kind : KindInv st.srv
  ck : ∀ x ∈ st.srv.clients, CK st.srv x.2 (ghostOf log x.1)

theorem ghostOf_congr (log log' : Log) (c : Nat) (h : log' c = log c) : ghostOf log' c = ghostOf log c := by
  unfold ghostOf; rw [h]

theorem ksess_preRun (st : St) (log : Log) (inv : KSess st log) (t : Bool) (ms : Nat) (hr : st.srv.running = true) :
    ∀ y ∈ (preRun st.srv t ms).clients, CK (preRun st.srv t ms) y.2 (ghostOf log y.1) := by
  intro y hy
  have hy' := hy
  rw [preRun_eq] at hy'
  obtain ⟨z, hz, rfl⟩ := List.mem_map.mp hy'
  exact (preRun_ck st.srv t ms hr inv.sess.sync.worldNodup z.2 _ (inv.ck z hz)).transport (preG_keys st.srv ms z.2)

theorem ksess_ran (st : St) (log : Log) (inv : KSess st log) (t : Bool) (ms : Nat) (parts : Nat → List (List Nat))
    (hr : st.srv.running = true) (hc : (preRun st.srv t ms).tickChanged = true)
    (y : Nat × Cli) (hy : y ∈ (preRun st.srv t ms).clients) (ha : y.2.authorized = true) :
    GhostExact (preRun st.srv t ms) (ranClient (preRun st.srv t ms) parts y).2
      (ghostOf (logStep st log (.frame t ms parts)) y.1) := by
  have sinvp := preRun_sync st.srv t ms inv.sess.sync
  have hg : ghostOf (logStep st log (.frame t ms parts)) y.1 = fun e =>
      stepKinds (ghostOf log y.1 e) (runUpdate (preRun st.srv t ms) ((preRun st.srv t ms).now + 1) y.2) e := by
    funext e
    unfold ghostOf
    rw [logStep_ran st log t ms parts hr hc sinvp.clientsNodup y hy, if_pos ha]
    exact ghostKinds_run _ _ _ _ e
  rw [hg]
  refine ran_kinds _ parts sinvp (preRun_kind st.srv t ms hr inv.kind) ?_ ?_ y hy ha _ (ksess_preRun st log inv t ms hr y hy)
  · rw [preRun_eq]
  · rw [preRun_eq]; exact if_pos hr

theorem ksess_frame (st : St) (log : Log) (t : Bool) (ms : Nat) (parts : Nat → List (List Nat))
    (inv : KSess st log) :
    ∀ x ∈ (frame st t ms parts).1.srv.clients, CK (frame st t ms parts).1.srv x.2 (ghostOf (logStep st log (.frame t ms parts)) x.1) := by
  intro x hx
  rw [frame_srv] at hx ⊢
  cases hrun : st.srv.running with
  | false =>
    rw [fullFrame_of_stopped st.srv t ms parts hrun] at hx ⊢
    replace hx : x ∈ (if st.srv.lastRunning then [] else st.srv.clients) := hx
    split at hx
    · cases hx
    · rw [ghostOf_congr log _ x.1 (logStep_stopped st log t ms parts hrun x.1)]
      exact (inv.ck x hx).nokeys (inv.sess.sync.stopped hrun x hx) rfl
  | true =>
    cases hc : (preRun st.srv t ms).tickChanged with
    | false =>
      rw [fullFrame_of_idle st.srv t ms parts hrun hc] at hx ⊢
      rw [ghostOf_congr log _ x.1 (logStep_idle st log t ms parts hrun hc x.1)]
      have h := ksess_preRun st log inv t ms hrun x hx
      -- `CK` does not read `now`
      exact ⟨h.none, h.rate, h.kept⟩
    | true =>
      have sinvp := preRun_sync st.srv t ms inv.sess.sync
      rw [fullFrame_of_ran st.srv t ms parts hrun hc] at hx ⊢
      obtain ⟨y, hy, rfl⟩ := List.mem_map.mp hx
      have ckp := ksess_preRun st log inv t ms hrun y hy
      cases ha : y.2.authorized with
      | false =>
        have hrc : ranClient (preRun st.srv t ms) parts y = y := by
          unfold ranClient; rw [ha, if_neg Bool.false_ne_true]
        have hl : logStep st log (.frame t ms parts) y.1 = log y.1 := by
          rw [logStep_ran st log t ms parts hrun hc sinvp.clientsNodup y hy, ha, if_neg Bool.false_ne_true]
        rw [hrc, ghostOf_congr log _ y.1 hl]
        exact ckp.nokeys (sinvp.unauth y hy ha) rfl
      | true =>
        exact ck_after_run _ parts _ _ sinvp (preRun_kind st.srv t ms hrun inv.kind)
          (fun e he => ((ranClient_view _ parts sinvp y hy ha e).mp he).1)
          (ksess_ran st log inv t ms parts hrun hc y hy ha)

theorem ksess_worldOp (st : St) (log : Log) (inv : KSess st log) {s' : Server} (h : WorldOp st.srv s') :
    ∀ x ∈ s'.clients, CK s' x.2 (ghostOf log x.1) := by
  intro x hx
  rw [h.clients] at hx
  exact h.ck inv.kind inv.sess.sync.worldNodup x.2 _ (inv.ck x hx) (inv.sess.sync.sync x hx)
    (fun hr => inv.sess.sync.stopped hr x hx)

theorem ksess_updClient (st : St) (log : Log) (inv : KSess st log) (c : Nat) (f : Cli → Cli)
    (hk : ∀ cl, (c, cl) ∈ st.srv.clients → (f cl).mutTick = cl.mutTick) :
    ∀ x ∈ (st.srv.updClient c f).clients, CK (st.srv.updClient c f) x.2 (ghostOf log x.1) :=
  forall_updClient st.srv c f _ (fun x hx => by rw [updClient_rest]; exact (inv.ck x hx).transport_clients _ _) fun cl hm h =>
    h.transport fun j => by unfold keys; rw [hk cl hm]

theorem ksess_step (st : St) (log : Log) (op : Op) (inv : KSess st log) (hl : LegalOp2 st.srv op) :
    KSess (step st op).1 (logStep st log op) := by
  refine ⟨sess_step st log op inv.sess hl, kind_step st op inv.kind, ?_⟩
  cases op with
  | spawn e m cs =>
    intro x hx
    exact spawn_ck st.srv e m cs hl x.2 _ (inv.ck x hx) (inv.sess.sync.sync x hx)
  | vis c e b => exact ksess_updClient st log inv c _ (fun _ _ => setCell_keys _ _ _)
  | map c e p => exact hl.elim
  | connect c a =>
    intro x hx
    rcases (mem_aset _ _ _ _).mp hx with rfl | ⟨hm, hne⟩
    · have hl : logStep st log (.connect c a) c = [] := if_pos rfl
      unfold ghostOf
      rw [hl]
      exact ck_empty _ _ rfl
    · rw [ghostOf_congr log _ x.1 (if_neg hne)]
      exact (inv.ck x hm).transport_clients _ _
  | authorize c =>
    -- an unauthorized client is tracked nothing, like the fresh state it gets
    refine ksess_updClient st log inv c _ (fun cl hm => ?_)
    split
    · rfl
    · rename_i ha
      exact (inv.sess.sync.unauth (c, cl) hm (Bool.eq_false_iff.mpr ha)).symm
  | disconnect c => exact fun x hx => (inv.ck x ((mem_adel _ _ _).mp hx).1).transport_clients _ _
  | stop => exact fun x hx => nomatch hx
  | start => exact fun x hx => (inv.ck x hx).transport_clients _ _
  | ack c idxs => exact ksess_updClient st log inv c _ (fun _ _ => rfl)
  | emit em => intro x hx; exact inv.ck x hx
  | frame t ms parts => exact ksess_frame st log t ms parts inv
  -- `despawn`, `insert`, `mutate`, `remove`, `mark`
  | _ => exact ksess_worldOp st log inv (step_worldOp st _ rfl)

theorem ksess_run (ops : List Op) : ∀ (st : St) (log : Log), KSess st log → Legal2 st ops →
    KSess (runLog st log ops).1 (runLog st log ops).2 := by
  induction ops with
  | nil => intro st log inv _; exact inv
  | cons op ops ih =>
    intro st log inv hl
    exact ih _ _ (ksess_step st log op inv hl.1) hl.2

theorem ksess_empty (s0 : Server) (hw : s0.world = []) (hc0 : s0.clients = []) (hb : s0.removalBuf = [])
    (ht : s0.lastRun < s0.now) : KSess ({ srv := s0 } : St) (fun _ => []) :=
  ⟨sess_empty s0 hw hc0 hb, kind_empty s0 hw hb ht,
   fun x hx => by rw [show ({ srv := s0 } : St).srv.clients = [] from hc0] at hx; cases hx⟩

theorem ksess_history (s0 : Server) (hw : s0.world = []) (hc0 : s0.clients = []) (hb : s0.removalBuf = [])
    (ht : s0.lastRun < s0.now) (ops : List Op) (hl : Legal2 { srv := s0 } ops) :
    KSess (run { srv := s0 } ops).1 (runLog { srv := s0 } (fun _ => []) ops).2 :=
  runLog_fst ops _ (fun _ => []) ▸ ksess_run ops _ _ (ksess_empty s0 hw hc0 hb ht) hl

theorem kinds_of_ksess (st : St) (log : Log) (inv : KSess st log) (ticked : Bool) (ms : Nat)
    (parts : Nat → List (List Nat))
    (hr : st.srv.running = true) (hc : (preRun st.srv ticked ms).tickChanged = true) :
    ∀ x ∈ (step st (.frame ticked ms parts)).1.srv.clients, x.2.authorized = true →
      ∀ e, e ∈ keys x.2 → ∀ ent, (e, ent) ∈ (step st (.frame ticked ms parts)).1.srv.world →
        ∀ k, k ∈ ghostKinds (logStep st log (.frame ticked ms parts) x.1) e ↔
          k ∈ presentKinds (step st (.frame ticked ms parts)).1.srv ent := by
  intro x hx ha e hke ent hwld k
  have hs : (step st (.frame ticked ms parts)).1.srv = ranFrame (preRun st.srv ticked ms) parts :=
    fullFrame_of_ran st.srv ticked ms parts hr hc
  rw [hs] at hx hwld ⊢
  obtain ⟨y, hy, rfl⟩ := List.mem_map.mp hx
  rw [ranClient_authorized] at ha
  exact (ksess_ran st log inv ticked ms parts hr hc y hy ha).exact e hke ent hwld k

/-- which components, over all histories, server side of the wire (`C03_history_components`) -/
theorem session_kinds (s0 : Server) (hw : s0.world = []) (hc0 : s0.clients = []) (hb : s0.removalBuf = [])
    (ht : s0.lastRun < s0.now)
    (ops : List Op) (ticked : Bool) (ms : Nat) (parts : Nat → List (List Nat))
    (hl : Legal2 { srv := s0 } (ops ++ [.frame ticked ms parts]))
    (hr : (run { srv := s0 } ops).1.srv.running = true)
    (hc : (preRun (run { srv := s0 } ops).1.srv ticked ms).tickChanged = true) :
    ∀ x ∈ (run { srv := s0 } (ops ++ [.frame ticked ms parts])).1.srv.clients, x.2.authorized = true →
      ∀ e, e ∈ keys x.2 → ∀ ent, (e, ent) ∈ (run { srv := s0 } (ops ++ [.frame ticked ms parts])).1.srv.world →
        ∀ k, k ∈ ghostKinds ((runLog { srv := s0 } (fun _ => []) (ops ++ [.frame ticked ms parts])).2 x.1) e ↔
          k ∈ presentKinds (run { srv := s0 } (ops ++ [.frame ticked ms parts])).1.srv ent := by
  rw [run_append, runLog_snd_append, runLog_fst]
  exact kinds_of_ksess _ _ (ksess_history s0 hw hc0 hb ht ops (legal2_prefix ops _ _ hl).1) ticked ms parts hr hc

end Replicon.Joint
