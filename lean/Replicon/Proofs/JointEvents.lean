import Replicon.Proofs.Joint
/-
Remote events over arbitrary histories of the joint server model, with or without jumps of the
tick: what the transport is handed for one client on one channel is a sub-sequence of the
emissions (C05: at most once, in order, never again on later frames, nothing from before the
connect).  "Sent" here (`sentIds`, `sent_*`) are events handed to the transport; the ghost `St.sent`
of `Proofs/Joint.lean` (`sentAfter`, `sent_lt_run`) records ticks of update messages.
-/
namespace Replicon.Joint
open Replicon Replicon.Srv Replicon.Evt

/-- payload ids of the dependent events of channel `ch` among `l` -/
def depIds (ch : Nat) (l : List Emitted) : List Nat :=
  ((l.filter fun e => !e.independent).map (·.ev)).filter (·.chan = ch) |>.map (·.id)

/-- the events of the buffered sets that do not exclude client `c` -/
def bufFor (s : SrvEv) (c : Nat) : List Ev :=
  (s.buffer.filter fun b => !b.excluded.contains c).flatMap (·.events)

/-- what can still be flushed to client `c` on channel `ch`: the buffered sets that do not
exclude it, then this frame's emissions -/
def remaining (st : St) (c ch : Nat) : List Nat :=
  ((bufFor st.ev c).filter (·.chan = ch)).map (·.id) ++ depIds ch st.pending

/-- dependent events of channel `ch` emitted by a history, in emission order -/
def emittedIds (ch : Nat) : List Op → List Nat
  | [] => []
  | .emit em :: ops => (if !em.independent && em.ev.chan = ch then [em.ev.id] else []) ++ emittedIds ch ops
  | _ :: ops => emittedIds ch ops

/-- dependent events of channel `ch` emitted by a history with jumps -/
def emittedIdsJ (ch : Nat) : List OpJ → List Nat
  | [] => []
  | .op o :: ops => emittedIds ch [o] ++ emittedIdsJ ch ops
  | .jump _ :: ops => emittedIdsJ ch ops

/-- dependent events of channel `ch` handed to the transport for client `c`, over a history -/
def sentIds (c ch : Nat) (frames : List (List (Nat × ClientOut) × List Out)) : List Nat :=
  frames.flatMap fun fr => ((fr.2.filter fun o => o.client = c ∧ o.chan = ch ∧ o.stamp.isSome).map (·.id))

/-- the dependent (stamped) events for client `c` on channel `ch` among `outs` -/
def pick (c ch : Nat) (outs : List Out) : List Nat :=
  (outs.filter fun o => o.client = c ∧ o.chan = ch ∧ o.stamp.isSome).map (·.id)

theorem sentIds_eq (c ch : Nat) (frames : List (List (Nat × ClientOut) × List Out)) :
    sentIds c ch frames = frames.flatMap fun fr => pick c ch fr.2 := rfl

/-- what is buffered for client `c` on channel `ch` -/
def bufIds (s : SrvEv) (c ch : Nat) : List Nat := ((bufFor s c).filter (·.chan = ch)).map (·.id)

theorem bufIds_empty (c ch : Nat) : bufIds {} c ch = [] := rfl

theorem remaining_eq (st : St) (c ch : Nat) : remaining st c ch = bufIds st.ev c ch ++ depIds ch st.pending := rfl

theorem depIds_nil (ch : Nat) : depIds ch [] = [] := rfl

theorem depIds_append (ch : Nat) (a b : List Emitted) : depIds ch (a ++ b) = depIds ch a ++ depIds ch b := by
  simp [depIds]

theorem depIds_singleton (ch : Nat) (em : Emitted) :
    depIds ch [em] = if !em.independent && em.ev.chan = ch then [em.ev.id] else [] := by
  cases hi : em.independent <;> by_cases hc : em.ev.chan = ch <;> simp [depIds, hi, hc]

theorem emittedIds_eq (ch : Nat) (ops : List Op) : emittedIds ch ops = depIds ch (ops.flatMap Op.emitted) := by
  induction ops with
  | nil => rfl
  | cons op ops ih =>
    rw [List.flatMap_cons, depIds_append, ← ih]
    cases op
    case emit em => exact congrArg (· ++ _) (depIds_singleton ch em).symm
    all_goals rfl

theorem emittedIdsJ_eq (ch : Nat) (ops : List OpJ) : emittedIdsJ ch ops = depIds ch (ops.flatMap OpJ.emitted) := by
  induction ops with
  | nil => rfl
  | cons op ops ih =>
    rw [List.flatMap_cons, depIds_append, ← ih]
    cases op with
    | op o => exact congrArg (· ++ _) ((emittedIds_eq ch [o]).trans (congrArg _ (List.flatMap_singleton ..)))
    | jump k => rfl

theorem pick_nil (c ch : Nat) : pick c ch [] = [] := rfl

theorem pick_append (c ch : Nat) (a b : List Out) : pick c ch (a ++ b) = pick c ch a ++ pick c ch b := by
  simp [pick]

theorem pick_flatMap {α : Type} (c ch : Nat) (f : α → List Out) (l : List α) :
    pick c ch (l.flatMap f) = l.flatMap fun x => pick c ch (f x) := by
  unfold pick
  rw [List.filter_flatMap, List.map_flatMap]

theorem pick_eq_nil (c ch : Nat) (outs : List Out)
    (h : ∀ o ∈ outs, ¬(o.client = c ∧ o.chan = ch ∧ o.stamp.isSome = true)) : pick c ch outs = [] := by
  unfold pick
  rw [List.map_eq_nil_iff, List.filter_eq_nil_iff]
  exact fun o ho hq => h o ho (of_decide_eq_true hq)

theorem pick_unstamped (c ch : Nat) (outs : List Out) (h : ∀ o ∈ outs, o.stamp = none) : pick c ch outs = [] :=
  pick_eq_nil c ch outs fun o ho hq => by
    rw [h o ho] at hq
    exact Bool.false_ne_true hq.2.2

theorem pick_sendEvent_excluded (peers : List Peer) (excl : List Nat) (e : Ev) (c ch : Nat) (hx : c ∈ excl) :
    pick c ch (sendEvent peers excl e) = [] :=
  pick_eq_nil c ch _ fun o ho hq => by
    obtain ⟨p, _, hex, _, _, rfl⟩ := mem_sendEvent.mp ho
    exact hex ((show p.id = c from hq.1) ▸ hx)

theorem pick_sendEvent (peers : List Peer) (excl : List Nat) (e : Ev) (c ch : Nat) (h : (peers.map (·.id)).Nodup) :
    List.Sublist (pick c ch (sendEvent peers excl e)) (if e.chan = ch then [e.id] else []) := by
  split
  · exact sendEvent_ids_sublist peers excl e c _ (fun _ ho => (of_decide_eq_true ho).1) h
  · next hc =>
    have hnil : pick c ch (sendEvent peers excl e) = [] := pick_eq_nil c ch _ fun o ho hq => by
      obtain ⟨p, _, _, _, _, rfl⟩ := mem_sendEvent.mp ho
      exact hc hq.2.1
    rw [hnil]
    exact List.Sublist.refl _

theorem pick_sendSet (peers : List Peer) (b : BufSet) (c ch : Nat) (h : (peers.map (·.id)).Nodup) :
    List.Sublist (pick c ch (sendSet peers b))
      (if !b.excluded.contains c then (b.events.filter (·.chan = ch)).map (·.id) else []) := by
  unfold sendSet
  rw [pick_flatMap]
  cases hx : b.excluded.contains c
  · rw [List.map_eq_flatMap]
    exact flatMap_sublist_filter _ _ _ _ fun e _ => by
      simpa only [decide_eq_true_eq] using pick_sendEvent peers b.excluded e c ch h
  · have hnil : (b.events.flatMap fun e => pick c ch (sendEvent peers b.excluded e)) = [] :=
      List.flatMap_eq_nil_iff.mpr fun e _ =>
        pick_sendEvent_excluded peers b.excluded e c ch (List.contains_iff_mem.mp hx)
    rw [hnil]
    exact List.nil_sublist _

theorem sendAll_order_chan (s : SrvEv) (peers : List Peer) (c ch : Nat) (h : (peers.map (·.id)).Nodup) :
    List.Sublist (pick c ch (s.sendAll peers)) (bufIds s c ch) := by
  unfold SrvEv.sendAll bufIds bufFor
  rw [pick_flatMap, List.filter_flatMap, List.map_flatMap]
  exact flatMap_sublist_filter _ _ _ _ fun b _ => pick_sendSet peers b c ch h

theorem bufFor_bufferEvents (s : SrvEv) (es : List Ev) (c : Nat) : bufFor (s.bufferEvents es) c = bufFor s c ++ es := by
  simp [bufFor, SrvEv.bufferEvents]

theorem bufIds_bufferEvents (s : SrvEv) (l : List Emitted) (c ch : Nat) :
    bufIds (s.bufferEvents (depEvs l)) c ch = bufIds s c ch ++ depIds ch l := by
  unfold bufIds
  rw [bufFor_bufferEvents, List.filter_append, List.map_append]
  rfl

theorem bufFor_exclude (s : SrvEv) (c' c : Nat) :
    bufFor (s.exclude c') c = if c' = c then [] else bufFor s c := by
  unfold bufFor SrvEv.exclude
  rw [List.filter_map, List.flatMap_map]
  -- the sets that do not exclude `c` once `c'` is excluded from all: none if `c' = c`, else as before
  have hcont : ∀ b : BufSet, (c' :: b.excluded).contains c = (c == c' || b.excluded.contains c) :=
    fun b => List.contains_cons ..
  split
  · next hc =>
    have hnil : s.buffer.filter ((fun b => !b.excluded.contains c) ∘ fun b => { b with excluded := c' :: b.excluded }) = [] :=
      List.filter_eq_nil_iff.mpr fun b _ hb => by
        rw [Function.comp, hcont, beq_iff_eq.mpr hc.symm] at hb
        exact Bool.false_ne_true hb
    rw [hnil]
    rfl
  · next hc =>
    rw [List.filter_congr fun b _ => by
      rw [Function.comp, hcont, beq_eq_false_iff_ne.mpr (Ne.symm hc), Bool.false_or]]

theorem bufIds_exclude (s : SrvEv) (c' c ch : Nat) : List.Sublist (bufIds (s.exclude c') c ch) (bufIds s c ch) := by
  unfold bufIds
  rw [bufFor_exclude]
  split
  · exact List.nil_sublist _
  · exact List.Sublist.refl _

theorem peersOf_keys (s : Server) : (peersOf s).map (·.id) = s.clients.map (·.1) := by
  unfold peersOf; rw [List.map_map]; rfl

theorem frame_sent_sub (st : St) (ticked : Bool) (ms : Nat) (parts : Nat → List (List Nat)) (c ch : Nat)
    (hn : ((st.srv.fullFrame ticked ms parts).clients.map (·.1)).Nodup) :
    List.Sublist (pick c ch (frame st ticked ms parts).2.2 ++ remaining (frame st ticked ms parts).1 c ch)
      (remaining st c ch) := by
  rw [remaining_eq, remaining_eq]
  cases hr : st.srv.running
  · -- stopped: nothing is sent, this frame's emissions are only handled locally
    rw [frame_stopped st ticked ms parts hr]
    dsimp only
    rw [pick_nil, depIds_nil, List.nil_append, List.append_nil]
    split
    · exact List.nil_sublist _
    · exact List.sublist_append_left _ _
  · cases hc : (preRun st.srv ticked ms).tickChanged
    · -- no flush: the emissions join the buffer
      rw [frame_idle st ticked ms parts hr hc]
      dsimp only
      rw [pick_unstamped c ch _ (indepOuts_unstamped _ _), bufIds_bufferEvents, depIds_nil, List.append_nil]
      exact List.Sublist.refl _
    · -- flush: nothing remains
      rw [frame_ran st ticked ms parts hr hc]
      dsimp only
      rw [depIds_nil, bufIds_empty, List.append_nil, List.append_nil, pick_append,
        pick_unstamped c ch _ (indepOuts_unstamped _ _), List.nil_append, ← bufIds_bufferEvents]
      exact sendAll_order_chan _ _ c ch (by rw [peersOf_keys]; exact hn)

theorem sent_stepJ (c ch : Nat) (st : St) (inv : Inv st) (op : OpJ) :
    List.Sublist (pick c ch (stepJO st op).2.2 ++ remaining (stepJO st op).1 c ch)
      (remaining st c ch ++ depIds ch op.emitted) := by
  rcases stepJO_ev st op with ⟨t, ms, parts, rfl⟩ | hq
  · -- of `Inv` only the distinct client ids are used (one peer per client); `Inv` is what carries them
    -- along a history
    exact (frame_sent_sub st t ms parts c ch (inv_step st (.frame t ms parts) inv).1.nodup).trans
      (List.sublist_append_left _ _)
  · rw [hq.outs, remaining_eq, remaining_eq, pick_nil, List.nil_append, hq.pending, depIds_append,
      List.append_assoc]
    refine List.Sublist.append ?_ (List.Sublist.refl _)
    rcases hq.ev with h | ⟨c', h⟩ <;> rw [h]
    · exact List.Sublist.refl _
    · exact bufIds_exclude st.ev c' c ch

theorem sent_step (c ch : Nat) (st : St) (inv : Inv st) (op : Op) :
    List.Sublist (pick c ch (step st op).2.2 ++ remaining (step st op).1 c ch)
      (remaining st c ch ++ emittedIds ch [op]) := by
  rw [emittedIds_eq, List.flatMap_singleton]
  exact sent_stepJ c ch st inv (.op op)

/-- conservation over any history, from any state: nothing twice, in emission order (C05) -/
theorem sent_conserved (c ch : Nat) (ops : List OpJ) : ∀ (st : St), Inv st →
    List.Sublist (sentIds c ch (runJ st ops).2 ++ remaining (runJ st ops).1 c ch)
      (remaining st c ch ++ depIds ch (ops.flatMap OpJ.emitted)) := by
  induction ops with
  | nil => intro st _; exact List.sublist_append_left _ _
  | cons op ops ih =>
    intro st inv
    have h1 := sent_stepJ c ch st inv op
    have h2 := ih _ (inv_stepJO st op inv).1
    rw [runJ, sentIds_eq, List.flatMap_cons, ← sentIds_eq, List.flatMap_cons, List.append_assoc, depIds_append,
      ← List.append_assoc (remaining st c ch)]
    exact (h2.append_left _).trans (by rw [← List.append_assoc]; exact h1.append_right _)

theorem sent_subJ (c ch : Nat) (ops : List OpJ) (st : St) (inv : Inv st) :
    List.Sublist (sentIds c ch (runJ st ops).2) (remaining st c ch ++ emittedIdsJ ch ops) := by
  rw [emittedIdsJ_eq]
  exact (List.sublist_append_left _ _).trans (sent_conserved c ch ops st inv)

theorem emittedIdsJ_map (ch : Nat) (ops : List Op) : emittedIdsJ ch (ops.map .op) = emittedIds ch ops := by
  rw [emittedIdsJ_eq, emittedIds_eq, List.flatMap_map]
  rfl

theorem sent_sub (c ch : Nat) (ops : List Op) (st : St) (inv : Inv st) :
    List.Sublist (sentIds c ch (run st ops).2) (remaining st c ch ++ emittedIds ch ops) := by
  rw [run_eq_runJ, ← emittedIdsJ_map]
  exact sent_subJ c ch _ st inv

/-- after a connect: nothing that was buffered before reaches the newcomer -/
theorem sent_subJ_connect (c ch : Nat) (a : Bool) (ops : List OpJ) (st : St) (inv : Inv st) :
    List.Sublist (sentIds c ch (runJ (step st (.connect c a)).1 ops).2) (depIds ch st.pending ++ emittedIdsJ ch ops) := by
  have := sent_subJ c ch ops (step st (.connect c a)).1 (inv_step st _ inv).1
  have hrem : remaining (step st (.connect c a)).1 c ch = depIds ch st.pending := by
    rw [remaining_eq]
    show bufIds (st.ev.exclude c) c ch ++ depIds ch st.pending = _
    rw [bufIds, bufFor_exclude, if_pos rfl]
    rfl
  rw [hrem] at this
  exact this

theorem sent_sub_connect (c ch : Nat) (a : Bool) (ops : List Op) (st : St) (inv : Inv st) :
    List.Sublist (sentIds c ch (run (step st (.connect c a)).1 ops).2) (depIds ch st.pending ++ emittedIds ch ops) := by
  rw [run_eq_runJ, ← emittedIdsJ_map]
  exact sent_subJ_connect c ch a _ st inv

end Replicon.Joint
