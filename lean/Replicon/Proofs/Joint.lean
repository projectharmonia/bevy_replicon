import Replicon.Proofs.Frame
import Replicon.Proofs.Ops
import Replicon.Proofs.Events
/-
Invariant of the joint server model over arbitrary histories (`Model/Joint.lean`), with or
without jumps of the tick: every client's `update_tick` is the tick of the last update message
sent to it in its session, those ticks strictly increase, and every dependent event leaves the
server stamped with that tick.  Read off it at the end: the ghost `sent` is what it claims to be,
and a frame serves only authorized clients (C07).
-/
namespace Replicon.Joint
open Replicon Replicon.Srv Replicon.Evt

theorem lastOr0_append (l : List Nat) (t : Nat) : lastOr0 (l ++ [t]) = t := by
  unfold lastOr0; simp

theorem lastOr0_mem (l : List Nat) : lastOr0 l = 0 ∨ lastOr0 l ∈ l := by
  unfold lastOr0
  cases h : l.getLast? with
  | none => exact .inl rfl
  | some x => exact .inr (List.mem_of_getLast? h)

theorem lastOr0_append_mem (a b : List Nat) (hb : b ≠ []) : lastOr0 (a ++ b) ∈ b := by
  unfold lastOr0
  rw [List.getLast?_append]
  cases h : b.getLast? with
  | none => exact absurd (List.getLast?_eq_none_iff.mp h) hb
  | some x => exact List.mem_of_getLast? h

/-- the ghost after a run from `p` -/
def sentAfter (sent : Nat → List Nat) (p : Server) : Nat → List Nat :=
  fun c => match updOf p c with
    | some t => sent c ++ [t]
    | none => sent c

/-! ### a frame, in its three cases

The replication state is `Server.fullFrame` (`Proofs/Frame.lean`).  The event systems are chained
after the run and read of a client only what the end of the frame leaves alone, so the peers they
see are those of the frame's final state. -/

theorem peersOf_frameEnd (s : Server) (ran : Bool) (parts : Nat → List (List Nat)) :
    peersOf (s.frameEnd ran parts) = peersOf s := by
  unfold Server.frameEnd peersOf
  split
  · rfl
  · simp only [List.map_map]
    apply List.map_congr_left
    intro x _
    simp only [Function.comp]
    split
    · unfold Cli.visUpdate
      rw [register_rest]
    · rfl

theorem frame_stopped (st : St) (ticked : Bool) (ms : Nat) (parts : Nat → List (List Nat))
    (hr : st.srv.running = false) :
    frame st ticked ms parts =
      ({ srv := st.srv.fullFrame ticked ms parts,
         ev := if st.srv.lastRunning then {} else st.ev, pending := [],
         sent := if st.srv.lastRunning then fun _ => [] else st.sent,
         localLog := st.localLog ++ localIds st.pending }, [], []) := by
  have h := frameBegin_of_stopped st.srv ticked ms hr
  unfold frame Server.fullFrame
  simp only [hr, h]
  cases st.srv.lastRunning <;> rfl

theorem frame_idle (st : St) (ticked : Bool) (ms : Nat) (parts : Nat → List (List Nat))
    (hr : st.srv.running = true) (hc : (preRun st.srv ticked ms).tickChanged = false) :
    frame st ticked ms parts =
      ({ srv := st.srv.fullFrame ticked ms parts,
         ev := st.ev.bufferEvents (depEvs st.pending), pending := [], sent := st.sent,
         localLog := st.localLog ++ localIds st.pending }, [],
       indepOuts (peersOf (st.srv.fullFrame ticked ms parts)) st.pending) := by
  have h := frameBegin_of_idle st.srv ticked ms hr hc
  unfold frame Server.fullFrame
  rw [peersOf_frameEnd]
  simp only [hr, h, Bool.not_true, Bool.and_false, Bool.false_eq_true, if_false]
  rfl

theorem frame_ran (st : St) (ticked : Bool) (ms : Nat) (parts : Nat → List (List Nat))
    (hr : st.srv.running = true) (hc : (preRun st.srv ticked ms).tickChanged = true) :
    frame st ticked ms parts =
      ({ srv := st.srv.fullFrame ticked ms parts, ev := {}, pending := [],
         sent := sentAfter st.sent (preRun st.srv ticked ms),
         localLog := st.localLog ++ localIds st.pending }, (preRun st.srv ticked ms).runAll.2,
       indepOuts (peersOf (st.srv.fullFrame ticked ms parts)) st.pending ++
         (st.ev.bufferEvents (depEvs st.pending)).sendAll (peersOf (st.srv.fullFrame ticked ms parts))) := by
  have h := frameBegin_of_ran st.srv ticked ms hr hc
  unfold frame Server.fullFrame
  rw [peersOf_frameEnd]
  simp only [hr, h, Bool.not_true, Bool.and_false, Bool.false_eq_true, if_false, if_true]
  rfl

/-- what a frame hands to the transport for replication: nothing without a run, … -/
theorem frame_outs_stopped (st : St) (ticked : Bool) (ms : Nat) (parts : Nat → List (List Nat))
    (hr : st.srv.running = false) : (frame st ticked ms parts).2.1 = [] := by
  rw [frame_stopped st ticked ms parts hr]

theorem frame_outs_idle (st : St) (ticked : Bool) (ms : Nat) (parts : Nat → List (List Nat))
    (hr : st.srv.running = true) (hc : (preRun st.srv ticked ms).tickChanged = false) :
    (frame st ticked ms parts).2.1 = [] := by
  rw [frame_idle st ticked ms parts hr hc]

/-- … and the outputs of the run with one -/
theorem frame_outs_eq (st : St) (ticked : Bool) (ms : Nat) (parts : Nat → List (List Nat))
    (hr : st.srv.running = true) (hc : (preRun st.srv ticked ms).tickChanged = true) :
    (frame st ticked ms parts).2.1 = (preRun st.srv ticked ms).runAll.2 := by
  rw [frame_ran st ticked ms parts hr hc]

theorem mem_frame_outs (st : St) (ticked : Bool) (ms : Nat) (parts : Nat → List (List Nat))
    (c : Nat) (o : ClientOut) (hm : (c, o) ∈ (frame st ticked ms parts).2.1) :
    st.srv.running = true ∧ (preRun st.srv ticked ms).tickChanged = true ∧ (c, o) ∈ (preRun st.srv ticked ms).runAll.2 := by
  cases hr : st.srv.running
  · rw [frame_outs_stopped st ticked ms parts hr] at hm
    cases hm
  · cases hc : (preRun st.srv ticked ms).tickChanged
    · rw [frame_outs_idle st ticked ms parts hr hc] at hm
      cases hm
    · exact ⟨rfl, rfl, frame_outs_eq st ticked ms parts hr hc ▸ hm⟩

theorem updOf_eq (p : Server) (c : Nat) :
    updOf p c = match aget p.clients c with
      | some cl => if sendsTo p cl then some p.tick else none
      | none => none := by
  unfold updOf sendsTo
  cases aget p.clients c with
  | none => rfl
  | some cl =>
    dsimp only
    rw [runClient_update_eq]
    cases cl.authorized <;> cases (runUpdate p (p.now + 1) cl).isEmpty <;> rfl

theorem updOf_tick (p : Server) (c t : Nat) (h : updOf p c = some t) : t = p.tick := by
  rw [updOf_eq] at h
  split at h
  · split at h
    · exact (Option.some.inj h).symm
    · cases h
  · cases h

theorem sentAfter_of_mem (sent : Nat → List Nat) (p : Server) (hn : (p.clients.map (·.1)).Nodup)
    (x : Nat × Cli) (hx : x ∈ p.clients) :
    sentAfter sent p x.1 = if sendsTo p x.2 then sent x.1 ++ [p.tick] else sent x.1 := by
  unfold sentAfter
  rw [updOf_eq, aget_of_mem_nodup _ x.1 x.2 hn hx]
  dsimp only
  cases sendsTo p x.2 <;> rfl

/-- the tick moves `k` ahead; nothing else happens (no run, no message, no change tick) -/
def St.jump (st : St) (k : Nat) : St := { st with srv := { st.srv with tick := st.srv.tick + k } }

inductive OpJ where
  | op (o : Op)
  | jump (k : Nat)

def stepJO (st : St) : OpJ → St × (List (Nat × ClientOut) × List Evt.Out)
  | .op o => step st o
  | .jump k => (st.jump k, ([], []))

def runJ (st : St) : List OpJ → St × List (List (Nat × ClientOut) × List Evt.Out)
  | [] => (st, [])
  | op :: ops =>
    let r := stepJO st op
    let t := runJ r.1 ops
    (t.1, (r.2.1, r.2.2) :: t.2)

def Op.emitted : Op → List Emitted
  | .emit em => [em]
  | _ => []

def OpJ.emitted : OpJ → List Emitted
  | .op o => o.emitted
  | .jump _ => []

/-- the event side of a step that hands nothing to the transport -/
structure NoFrame (st : St) (op : OpJ) : Prop where
  outs : (stepJO st op).2 = ([], [])
  pending : (stepJO st op).1.pending = st.pending ++ op.emitted
  localLog : (stepJO st op).1.localLog = st.localLog
  /-- the buffer changes only by a connect's `exclude` -/
  ev : (stepJO st op).1.ev = st.ev ∨ ∃ c, (stepJO st op).1.ev = st.ev.exclude c

/-- every step but a frame (a jump of the tick included) hands nothing to the transport -/
theorem stepJO_ev (st : St) (op : OpJ) : (∃ t ms parts, op = .op (.frame t ms parts)) ∨ NoFrame st op := by
  rcases op with o | k
  · cases o
    case frame t ms parts => exact .inl ⟨t, ms, parts, rfl⟩
    case connect c a => exact .inr ⟨rfl, (List.append_nil _).symm, rfl, .inr ⟨c, rfl⟩⟩
    case emit em => exact .inr ⟨rfl, rfl, rfl, .inl rfl⟩
    all_goals exact .inr ⟨rfl, (List.append_nil _).symm, rfl, .inl rfl⟩
  · exact .inr ⟨rfl, (List.append_nil _).symm, rfl, .inl rfl⟩

/-- The ghost `sent` is the history of each client's `update_tick` in its session (behind C03's server
order and C04's stamps). -/
structure Inv (st : St) : Prop where
  nodup : (st.srv.clients.map (·.1)).Nodup
  tickEq : ∀ c cl, (c, cl) ∈ st.srv.clients → cl.updateTick = lastOr0 (st.sent c)
  incr : ∀ c, (st.sent c).Pairwise (· < ·)
  le : ∀ c t, t ∈ st.sent c → t ≤ st.srv.tick
  /-- strictly below, while a run is pending: the next run may happen at this very tick (a frame that
  does not tick, after a start or a reset), and its tick must still be newer than all sent (`sent_lt_run`) -/
  fresh : st.srv.tickChanged = true → ∀ c t, t ∈ st.sent c → t < st.srv.tick
  unauth : ∀ c cl, (c, cl) ∈ st.srv.clients → cl.authorized = false → st.sent c = []

theorem inv_of_empty (st : St) (hc : st.srv.clients = []) (hs : ∀ c, st.sent c = []) : Inv st := by
  refine ⟨?_, ?_, ?_, ?_, ?_, ?_⟩
  · rw [hc]; exact List.nodup_nil
  · intro c cl h; rw [hc] at h; cases h
  · intro c; rw [hs]; exact List.Pairwise.nil
  · intro c t h; rw [hs] at h; cases h
  · intro _ c t h; rw [hs] at h; cases h
  · intro c cl h; rw [hc] at h; cases h

theorem inv_init : Inv {} := inv_of_empty _ rfl fun _ => rfl

/-- every step in which nothing is sent -/
theorem inv_of_sub (st st' : St) (inv : Inv st) (hn : (st'.srv.clients.map (·.1)).Nodup)
    (ht : st.srv.tick ≤ st'.srv.tick) (hch : st'.srv.tickChanged = true → st.srv.tickChanged = true)
    (hs : ∀ c, st'.sent c = st.sent c ∨ st'.sent c = [])
    (hcl : ∀ c cl, (c, cl) ∈ st'.srv.clients → (cl.updateTick = 0 ∧ st'.sent c = []) ∨
      ∃ cl0, (c, cl0) ∈ st.srv.clients ∧ cl.updateTick = cl0.updateTick ∧
        cl.authorized = cl0.authorized ∧ st'.sent c = st.sent c) : Inv st' := by
  have hmem : ∀ c t, t ∈ st'.sent c → t ∈ st.sent c := by
    intro c t h
    rcases hs c with e | e <;> rw [e] at h
    · exact h
    · cases h
  refine ⟨hn, ?_, ?_, ?_, ?_, ?_⟩
  · intro c cl hm
    rcases hcl c cl hm with ⟨h0, he⟩ | ⟨cl0, hm0, hu, _, he⟩
    · rw [h0, he]; rfl
    · rw [hu, he]; exact inv.tickEq c cl0 hm0
  · intro c
    rcases hs c with e | e <;> rw [e]
    · exact inv.incr c
    · exact List.Pairwise.nil
  · intro c t h
    exact Nat.le_trans (inv.le c t (hmem c t h)) ht
  · intro h c t hm
    exact Nat.lt_of_lt_of_le (inv.fresh (hch h) c t (hmem c t hm)) ht
  · intro c cl hm ha
    rcases hcl c cl hm with ⟨_, he⟩ | ⟨cl0, hm0, _, hau, he⟩
    · exact he
    · rw [he]; exact inv.unauth c cl0 hm0 (hau ▸ ha)

/-- `Inv` reads of the server only the clients, the tick and `tickChanged` -/
theorem Inv.transport {st st' : St} (inv : Inv st) (hcl : st'.srv.clients = st.srv.clients)
    (ht : st.srv.tick ≤ st'.srv.tick) (hch : st'.srv.tickChanged = true → st.srv.tickChanged = true)
    (hs : st'.sent = st.sent) : Inv st' :=
  inv_of_sub st st' inv (hcl ▸ inv.nodup) ht hch (fun c => .inl (congrFun hs c))
    fun c cl hm => .inr ⟨cl, hcl ▸ hm, rfl, rfl, congrFun hs c⟩

theorem inv_world (st : St) (s' : Server) (h : WorldOnly st.srv s') (inv : Inv st) : Inv { st with srv := s' } :=
  inv.transport (congrArg Server.clients h :) (Nat.le_of_eq (congrArg Server.tick h :).symm)
    (fun h' => (congrArg Server.tickChanged h :).symm.trans h') rfl

theorem inv_upd (st : St) (c : Nat) (f : Cli → Cli) (inv : Inv st)
    (hf : ∀ cl, (c, cl) ∈ st.srv.clients → ((f cl).updateTick = 0 ∧ st.sent c = []) ∨
      ((f cl).updateTick = cl.updateTick ∧ (f cl).authorized = cl.authorized)) :
    Inv { st with srv := st.srv.updClient c f } := by
  have h := updClient_rest st.srv c f
  refine inv_of_sub st _ inv (nodup_updClient _ _ _ inv.nodup) (Nat.le_of_eq (congrArg Server.tick h :).symm)
    (fun h' => (congrArg Server.tickChanged h :).symm.trans h') (fun _ => .inl rfl) fun k cl hm => ?_
  rcases mem_updClient _ _ _ _ inv.nodup hm with ⟨cl0, hm0, he⟩ | ⟨hm0, _⟩
  · cases he
    rcases hf cl0 hm0 with h0 | ⟨h1, h2⟩
    · exact .inl h0
    · exact .inr ⟨cl0, hm0, h1, h2, rfl⟩
  · exact .inr ⟨cl, hm0, rfl, rfl, rfl⟩

/-- what the event systems of a step hand to the transport with a stamp carries the tick of the
last update message sent to that client in its session (0 if none was sent yet) -/
def StampsOk (st' : St) (outs : List Out) : Prop :=
  ∀ o ∈ outs, ∀ t, o.stamp = some t → t = lastOr0 (st'.sent o.client)

theorem inv_frame_stopped (st : St) (ticked : Bool) (ms : Nat) (parts : Nat → List (List Nat)) (inv : Inv st)
    (hr : st.srv.running = false) : Inv (frame st ticked ms parts).1 := by
  rw [frame_stopped st ticked ms parts hr, fullFrame_of_stopped st.srv ticked ms parts hr]
  cases hl : st.srv.lastRunning
  · -- nothing happens to the clients; `tickChanged` is `false` after a frame
    exact inv.transport rfl (Nat.le_refl _) (fun h => Bool.noConfusion h) rfl
  · -- the reset of a server that just stopped
    exact inv_of_empty _ rfl fun _ => rfl

theorem inv_frame_idle (st : St) (ticked : Bool) (ms : Nat) (parts : Nat → List (List Nat)) (inv : Inv st)
    (hr : st.srv.running = true) (hc : (preRun st.srv ticked ms).tickChanged = false) :
    Inv (frame st ticked ms parts).1 := by
  rw [frame_idle st ticked ms parts hr hc, fullFrame_of_idle st.srv ticked ms parts hr hc]
  refine inv_of_sub st _ inv ((preRun_clientIds st.srv ticked ms).symm ▸ inv.nodup) ?_
    (fun h => Bool.noConfusion (hc.symm.trans h)) (fun _ => .inl rfl) fun c cl hm => ?_
  · show st.srv.tick ≤ (preRun st.srv ticked ms).tick
    rw [preRun_eq]
    show _ ≤ if ticked then st.srv.tick + 1 else st.srv.tick
    split <;> omega
  · obtain ⟨cl0, hm0, rfl⟩ := mem_preRun_clients hm
    exact .inr ⟨cl0, hm0, preG_updateTick .., preG_authorized .., rfl⟩

theorem sent_lt_run (st : St) (ticked : Bool) (ms : Nat) (inv : Inv st)
    (hc : (preRun st.srv ticked ms).tickChanged = true) :
    ∀ c x, x ∈ st.sent c → x < (preRun st.srv ticked ms).tick := by
  intro c x hx
  rw [preRun_eq] at hc ⊢
  cases ticked
  · -- the run happens at the tick the state is at: a run was pending, which is what `fresh` is for
    exact inv.fresh hc c x hx
  · exact Nat.lt_succ_of_le (inv.le c x hx)

theorem sentAfter_spec (sent : Nat → List Nat) (p : Server) (c : Nat) (hinc : (sent c).Pairwise (· < ·))
    (hold : ∀ x ∈ sent c, x < p.tick) :
    (sentAfter sent p c).Pairwise (· < ·) ∧ ∀ x ∈ sentAfter sent p c, x ≤ p.tick := by
  unfold sentAfter
  cases h : updOf p c with
  | none => exact ⟨hinc, fun x hx => Nat.le_of_lt (hold x hx)⟩
  | some t =>
    rw [updOf_tick p c t h]
    refine ⟨List.pairwise_append.mpr ⟨hinc, List.pairwise_singleton _ _,
      fun x hx y hy => List.mem_singleton.mp hy ▸ hold x hx⟩, fun x hx => ?_⟩
    rcases List.mem_append.mp hx with hx | hx
    · exact Nat.le_of_lt (hold x hx)
    · exact Nat.le_of_eq (List.mem_singleton.mp hx)

theorem inv_frame_ran (st : St) (ticked : Bool) (ms : Nat) (parts : Nat → List (List Nat)) (inv : Inv st)
    (hr : st.srv.running = true) (hc : (preRun st.srv ticked ms).tickChanged = true) :
    Inv (frame st ticked ms parts).1 := by
  rw [frame_ran st ticked ms parts hr hc, fullFrame_of_ran st.srv ticked ms parts hr hc]
  generalize hp : preRun st.srv ticked ms = p
  have hn : (p.clients.map (·.1)).Nodup := hp ▸ (preRun_clientIds st.srv ticked ms).symm ▸ inv.nodup
  have hspec := fun c => sentAfter_spec st.sent p c (inv.incr c) (hp ▸ sent_lt_run st ticked ms inv hc c)
  -- a client after the run, against its ghost: both move to the run's tick, or neither moves
  have hcl : ∀ c cl, (c, cl) ∈ (ranFrame p parts).clients →
      cl.updateTick = lastOr0 (sentAfter st.sent p c) ∧ (cl.authorized = false → sentAfter st.sent p c = []) := by
    intro c cl hm
    obtain ⟨x, hx, he⟩ := List.mem_map.mp hm
    obtain ⟨rfl, rfl⟩ : x.1 = c ∧ (ranClient p parts x).2 = cl := ⟨congrArg Prod.fst he, congrArg Prod.snd he⟩
    obtain ⟨cl0, hm0, hx2⟩ := mem_preRun_clients (hp ▸ hx)
    have h1 : x.2.updateTick = cl0.updateTick := hx2 ▸ preG_updateTick ..
    have h2 : x.2.authorized = cl0.authorized := hx2 ▸ preG_authorized ..
    rw [ranClient_updateTick, ranClient_authorized, sentAfter_of_mem st.sent p hn x hx]
    cases hs : sendsTo p x.2
    · exact ⟨h1.trans (inv.tickEq x.1 cl0 hm0), fun ha => inv.unauth x.1 cl0 hm0 (h2 ▸ ha)⟩
    · refine ⟨(lastOr0_append _ _).symm, fun ha => ?_⟩
      rw [sendsTo, ha] at hs
      cases hs
  -- `fresh` is vacuous: `tickChanged` is `false` after a run
  exact ⟨by rw [ranFrame, List.map_map]; exact hn, fun c cl hm => (hcl c cl hm).1, fun c => (hspec c).1,
    fun c => (hspec c).2, fun h => Bool.noConfusion h, fun c cl hm => (hcl c cl hm).2⟩

/-- `o` comes from the flush of a frame with a run and goes to `x`, a client of the frame's final
state -/
structure Flushed (st : St) (ticked : Bool) (ms : Nat) (parts : Nat → List (List Nat)) (o : Out) (x : Nat × Cli) :
    Prop where
  running : st.srv.running = true
  ran : (preRun st.srv ticked ms).tickChanged = true
  mem : x ∈ (st.srv.fullFrame ticked ms parts).clients
  client : o.client = x.1
  authorized : x.2.authorized = true
  stamp : o.stamp = some x.2.updateTick

theorem frame_stamped (st : St) (ticked : Bool) (ms : Nat) (parts : Nat → List (List Nat)) (o : Out)
    (ho : o ∈ (frame st ticked ms parts).2.2) (hs : o.stamp.isSome = true) :
    ∃ x, Flushed st ticked ms parts o x := by
  have unstamped : ∀ l : List Emitted, o ∉ indepOuts (peersOf (st.srv.fullFrame ticked ms parts)) l := fun l h => by
    rw [indepOuts_unstamped _ _ o h] at hs
    cases hs
  cases hr : st.srv.running
  · rw [frame_stopped st ticked ms parts hr] at ho
    cases ho
  · cases hc : (preRun st.srv ticked ms).tickChanged
    · rw [frame_idle st ticked ms parts hr hc] at ho
      exact absurd ho (unstamped _)
    · rw [frame_ran st ticked ms parts hr hc] at ho
      obtain ⟨q, hq, hcl, ha, hst⟩ := mem_sendAll_peer ((List.mem_append.mp ho).resolve_left (unstamped _))
      obtain ⟨x, hx, rfl⟩ := List.mem_map.mp hq
      exact ⟨x, hr, hc, hx, hcl, ha, hst⟩

theorem frame_stampsOk (st : St) (ticked : Bool) (ms : Nat) (parts : Nat → List (List Nat))
    (inv' : Inv (frame st ticked ms parts).1) :
    StampsOk (frame st ticked ms parts).1 (frame st ticked ms parts).2.2 := by
  intro o ho t ht
  obtain ⟨x, hf⟩ := frame_stamped st ticked ms parts o ho (by rw [ht]; rfl)
  cases hf.stamp.symm.trans ht
  rw [hf.client]
  exact inv'.tickEq x.1 x.2 hf.mem

/-- a client reset by a connect or dropped by a disconnect loses its ghost, the others keep theirs -/
theorem sent_reset (sent : Nat → List Nat) (c k : Nat) :
    (if k = c then [] else sent k) = sent k ∨ (if k = c then [] else sent k) = [] := by
  by_cases h : k = c
  · exact .inr (if_pos h)
  · exact .inl (if_neg h)

theorem inv_step (st : St) (op : Op) (inv : Inv st) :
    Inv (step st op).1 ∧ StampsOk (step st op).1 (step st op).2.2 := by
  have hinv : Inv (step st op).1 := by
    cases op with
    | spawn e m cs => exact inv_world st _ rfl inv
    | despawn e => exact inv_world st _ (step_worldOp st (.despawn e) rfl).rest inv
    | insert e k v => exact inv_world st _ (step_worldOp st (.insert e k v) rfl).rest inv
    | mutate e k v => exact inv_world st _ (step_worldOp st (.mutate e k v) rfl).rest inv
    | remove e k => exact inv_world st _ (step_worldOp st (.remove e k) rfl).rest inv
    | mark e on => exact inv_world st _ (step_worldOp st (.mark e on) rfl).rest inv
    | vis c e b => exact inv_upd st c _ inv fun _ _ => .inr ⟨rfl, rfl⟩
    | map c e p => exact inv_upd st c _ inv fun _ _ => .inr ⟨rfl, rfl⟩
    | ack c idxs => exact inv_upd st c _ inv fun _ _ => .inr ⟨rfl, rfl⟩
    | start => exact inv.transport rfl (Nat.le_refl _) id rfl
    | emit em => exact inv.transport rfl (Nat.le_refl _) id rfl
    | stop => exact inv_of_empty _ rfl fun _ => rfl
    | authorize c =>
      refine inv_upd st c _ inv fun cl hm => ?_
      cases ha : cl.authorized
      · -- fresh `ClientTicks`; nothing was sent to an unauthorized client
        exact .inl ⟨rfl, inv.unauth c cl hm ha⟩
      · exact .inr ⟨rfl, ha⟩
    | connect c a =>
      refine inv_of_sub st _ inv (nodup_aset _ _ _ inv.nodup) (Nat.le_refl _) id
        (sent_reset st.sent c) fun k cl hm => ?_
      rcases (mem_aset _ _ _ _).mp hm with he | ⟨hm0, hne⟩
      · cases he
        exact .inl ⟨rfl, if_pos rfl⟩
      · exact .inr ⟨cl, hm0, rfl, rfl, if_neg hne⟩
    | disconnect c =>
      refine inv_of_sub st _ inv (nodup_adel _ _ inv.nodup) (Nat.le_refl _) id
        (sent_reset st.sent c) fun k cl hm => ?_
      obtain ⟨hm0, hne⟩ := (mem_adel _ _ _).mp hm
      exact .inr ⟨cl, hm0, rfl, rfl, if_neg hne⟩
    | frame t ms parts =>
      cases hr : st.srv.running
      · exact inv_frame_stopped st t ms parts inv hr
      · cases hc : (preRun st.srv t ms).tickChanged
        · exact inv_frame_idle st t ms parts inv hr hc
        · exact inv_frame_ran st t ms parts inv hr hc
  refine ⟨hinv, ?_⟩
  -- `stepJO st (.op op)` is `step st op`: a frame, or a step that hands nothing to the transport
  rcases stepJO_ev st (.op op) with ⟨t, ms, parts, h⟩ | hq
  · cases h
    exact frame_stampsOk st t ms parts hinv
  · intro o ho
    rw [show (step st op).2 = ([], []) from hq.outs] at ho
    cases ho

theorem run_append (ops : List Op) (op : Op) : ∀ (st : St), (run st (ops ++ [op])).1 = (step (run st ops).1 op).1 := by
  induction ops with
  | nil => intro st; rfl
  | cons o os ih => intro st; exact ih _

theorem run_eq_runJ (ops : List Op) : ∀ (st : St), run st ops = runJ st (ops.map .op) := by
  induction ops with
  | nil => intro st; rfl
  | cons op ops ih => intro st; simp only [run, List.map_cons, runJ, stepJO, ih]

theorem inv_jump (st : St) (k : Nat) (inv : Inv st) : Inv (st.jump k) :=
  inv.transport rfl (Nat.le_add_right _ _) id rfl

theorem inv_stepJO (st : St) (op : OpJ) (inv : Inv st) :
    Inv (stepJO st op).1 ∧ StampsOk (stepJO st op).1 (stepJO st op).2.2 := by
  cases op with
  | op o => exact inv_step st o inv
  | jump k => exact ⟨inv_jump st k inv, fun o ho => nomatch ho⟩

/-- every entry of a history's output, tied to the step and the state it comes from -/
theorem history_stamps (ops : List OpJ) : ∀ (st : St), Inv st →
    Inv (runJ st ops).1 ∧
    ∀ fr ∈ (runJ st ops).2, ∃ pre op, (∃ post, ops = pre ++ op :: post) ∧
      fr = (stepJO (runJ st pre).1 op).2 ∧ Inv (stepJO (runJ st pre).1 op).1 ∧
      StampsOk (stepJO (runJ st pre).1 op).1 fr.2 := by
  induction ops with
  | nil => intro st inv; exact ⟨inv, nofun⟩
  | cons op ops ih =>
    intro st inv
    obtain ⟨h1, h2⟩ := inv_stepJO st op inv
    obtain ⟨k1, k2⟩ := ih (stepJO st op).1 h1
    refine ⟨k1, fun fr hfr => ?_⟩
    rcases List.mem_cons.mp hfr with rfl | h
    · exact ⟨[], op, ⟨ops, rfl⟩, rfl, h1, h2⟩
    · obtain ⟨pre, o, ⟨post, hp⟩, hf, hi, hs⟩ := k2 fr h
      exact ⟨op :: pre, o, ⟨post, congrArg (op :: ·) hp⟩, hf, hi, hs⟩

theorem inv_runJ (ops : List OpJ) : ∀ (st : St), Inv st →
    Inv (runJ st ops).1 ∧ ∀ fr ∈ (runJ st ops).2, ∃ st', Inv st' ∧ StampsOk st' fr.2 := by
  intro st inv
  obtain ⟨h1, h2⟩ := history_stamps ops st inv
  refine ⟨h1, fun fr hfr => ?_⟩
  obtain ⟨pre, op, _, _, hi, hs⟩ := h2 fr hfr
  exact ⟨_, hi, hs⟩

theorem inv_run (ops : List Op) (st : St) (inv : Inv st) :
    Inv (run st ops).1 ∧ ∀ fr ∈ (run st ops).2, ∃ st', Inv st' ∧ StampsOk st' fr.2 := by
  rw [run_eq_runJ]
  exact inv_runJ _ st inv

theorem step_rates (st : St) (op : Op) : (step st op).1.srv.rates = st.srv.rates := by
  have hupd : ∀ c f, (st.srv.updClient c f).rates = st.srv.rates :=
    fun c f => (congrArg Server.rates (updClient_rest st.srv c f) :)
  cases op with
  | spawn e m cs => rfl
  | vis c e b => exact hupd c _
  | map c e p => exact hupd c _
  | authorize c => exact hupd c _
  | ack c idxs => exact hupd c _
  | frame t ms parts =>
    show (st.srv.fullFrame t ms parts).rates = _
    cases hr : st.srv.running with
    | false => rw [fullFrame_of_stopped st.srv t ms parts hr]
    | true =>
      cases hc : (preRun st.srv t ms).tickChanged with
      | false => rw [fullFrame_of_idle st.srv t ms parts hr hc, preRun_eq]
      | true => rw [fullFrame_of_ran st.srv t ms parts hr hc, preRun_eq]; rfl
  | connect c a => rfl
  | disconnect c => rfl
  | stop => rfl
  | start => rfl
  | emit em => rfl
  -- `despawn`, `insert`, `mutate`, `remove`, `mark` (`Op.isWorldOp`) change the world and the buffers only
  | _ => rw [show (step st _).1.srv = _ from (step_worldOp st _ rfl).rest]

theorem run_rates (ops : List Op) : ∀ (st : St), (run st ops).1.srv.rates = st.srv.rates := by
  induction ops with
  | nil => intro st; rfl
  | cons op ops ih => intro st; exact (ih _).trans (step_rates st op)

/-! ### the ghost `sent` is what it claims to be -/

theorem frame_update_ghost (st : St) (ticked : Bool) (ms : Nat) (parts : Nat → List (List Nat)) (inv : Inv st)
    (c : Nat) (o : ClientOut) (u : Update)
    (hm : (c, o) ∈ (frame st ticked ms parts).2.1) (hu : o.update = some u) :
    (frame st ticked ms parts).1.sent c = st.sent c ++ [u.tick] ∧ ∀ t ∈ st.sent c, t < u.tick := by
  obtain ⟨hr, hc, hm⟩ := mem_frame_outs st ticked ms parts c o hm
  obtain ⟨clp, hclp, ha, rfl⟩ := (mem_runAll_outs _ c o).mp hm
  have hold := sent_lt_run st ticked ms inv hc c
  rw [frame_ran st ticked ms parts hr hc]
  show sentAfter st.sent (preRun st.srv ticked ms) c = _ ∧ _
  rw [sentAfter_of_mem st.sent _ ((preRun_clientIds st.srv ticked ms).symm ▸ inv.nodup) (c, clp) hclp]
  -- the run sends `clp` the update message `u`, which carries the run's tick
  rw [runClient_update_eq] at hu
  unfold sendsTo
  rw [ha]
  split at hu
  · cases hu
  · next he =>
    cases hu
    rw [Bool.eq_false_iff.mpr he]
    exact ⟨rfl, hold⟩

theorem frame_replication_authorized (st : St) (ticked : Bool) (ms : Nat) (parts : Nat → List (List Nat))
    (c : Nat) (o : ClientOut) (hm : (c, o) ∈ (frame st ticked ms parts).2.1) :
    ∃ cl, (c, cl) ∈ st.srv.clients ∧ cl.authorized = true := by
  obtain ⟨_, _, hm⟩ := mem_frame_outs st ticked ms parts c o hm
  obtain ⟨clp, hclp, ha, _⟩ := (mem_runAll_outs _ c o).mp hm
  obtain ⟨cl0, hcl0, rfl⟩ := mem_preRun_clients hclp
  exact ⟨cl0, hcl0, (preG_authorized ..).symm.trans ha⟩

theorem frame_events_authorized (st : St) (ticked : Bool) (ms : Nat) (parts : Nat → List (List Nat))
    (o : Out) (ho : o ∈ (frame st ticked ms parts).2.2) (hs : o.stamp.isSome) :
    ∃ cl, (o.client, cl) ∈ st.srv.clients ∧ cl.authorized = true := by
  -- a client of the frame's final state is a client before the frame, with its authorization
  obtain ⟨x, hf⟩ := frame_stamped st ticked ms parts o ho hs
  have hx := hf.mem
  rw [fullFrame_of_ran st.srv ticked ms parts hf.running hf.ran] at hx
  obtain ⟨y, hy, rfl⟩ := List.mem_map.mp (show x ∈ (preRun st.srv ticked ms).clients.map _ from hx)
  obtain ⟨cl0, hcl0, hy2⟩ := mem_preRun_clients hy
  exact ⟨cl0, hf.client ▸ hcl0, (preG_authorized ..).symm.trans
    (hy2 ▸ (ranClient_authorized _ parts y).symm.trans hf.authorized)⟩

end Replicon.Joint
