import Replicon.Proofs.Fresh
import Replicon.Proofs.Jump
/-
C01 — Every client converges to the server state under any legal network schedule.

Models: `Model/Server.lean`, `Model/Client.lean`, in lock step with the real apps on every
generated trace; convergence itself is evaluated on the *implementation* at the end of every
trace (a quiescent suffix of PERIOD+4 ticks with full in-order delivery, then client view =
server view for every authorized client), and panics of either app are caught.

Proved here are the two halves of a convergence argument — *progress* (whatever the client
lacks is in the next run's messages) and *stability* (once nothing is lacking, the run is
silent and the client's frame changes nothing) — per run.  `C01_converges_partial` (the name of
the partial claim in DESIGN.md and `bin/registry.py`, not a Lean theorem): the
induction over an arbitrary legal history that joins them (the invariant that the server's
belief `mutTick` never runs ahead of what the client has applied) is not proved as one theorem
for *values*.  For the set of entities and the component kinds it is
(`C01_history_same_entities`, `C01_history_same_components`).
Known findings outside the theorems: F4 (periodic components), F20 (tick-0 race).
-/
namespace Replicon.C01
open Replicon.Srv Replicon.Cli

/-- Progress, structure: for a client the server has no tick for yet (and with nothing to despawn
or to report lost), an entity it may see is in the run's update message, whole. -/
theorem C01_progress_structure (s : Server) (thisRun : Nat) (cl : Cli)
    (hd : s.despawnBuf = []) (hl : NoLost s.white cl) (hk : ∀ e, aget cl.mutTick e = none)
    (e : Nat) (ent : SEnt) (m : Nat) (hw : (e, ent) ∈ s.world) (hm : ent.marker = some m)
    (hv : visState s cl e ≠ .hidden) :
    ∃ u, (runClient s thisRun cl).2.update = some u ∧
      ({ ent := e, comps := (present s ent).map fun x => (x.1, x.2.2.val) } : MsgEnt) ∈ u.changes :=
  runClient_full_state s thisRun cl hd hl hk e ent m hw hm hv

/-- Progress, values: a value newer than what the server believes the client has is in the
run's messages whenever the component's send rate fires (every tick for ordinary components;
at the period tick for periodic ones — that is the "catch up at their next period tick"). -/
theorem C01_progress_values (s : Server) (thisRun : Nat) (cl : Cli) (e : Nat) (ent : SEnt) (m t : Nat)
    (k : Nat) (r : Rate) (c : Comp)
    (hvis : visState s cl e = .visible) (hk : aget cl.mutTick e = some t)
    (hold : ¬ m > s.lastRun) (hm : (k, r, c) ∈ present s ent)
    (hadded : ¬ c.added > s.lastRun) (hchanged : c.changed > t) (hrate : r.sendMutations s.tick = true) :
    (∃ u, (collectEntity s thisRun cl e ent m).toUpdate = some u ∧ (k, c.val) ∈ u.comps) ∨
    (∃ u, (collectEntity s thisRun cl e ent m).toMutate = some u ∧ (k, c.val) ∈ u.comps) :=
  collect_resend s thisRun cl e ent m t k r c hvis hk hold hm hadded hchanged hrate

/-- Progress, despawns: an entity that left replication and that the client could see is among the
despawns `collect_despawns` (`despawnPhase`) writes for that client.  (The statement is about that
function; a run's DESPAWNS are its output for the client once its mappings are taken,
`runDespawns`, which has the cells of `cl`.) -/
theorem C01_progress_despawn (s : Server) (cl : Cli) (e : Nat) (hm : e ∈ s.despawnBuf)
    (hv : Vis.isVisible s.white (cell cl e) = true) : e ∈ (despawnPhase s cl).2 :=
  despawnPhase_sends s cl e hm hv

/-- Stability, server: when nothing is pending and there is nothing to say about any
replicated entity, the run sends nothing and changes nothing. -/
theorem C01_stable_server (s : Server) (thisRun : Nat) (cl : Cli)
    (hd : s.despawnBuf = []) (hr : s.removalBuf = []) (hm : cl.mappings = []) (hl : NoLost s.white cl)
    (hq : ∀ e ent m, (e, ent) ∈ s.world → ent.marker = some m → Quiet s cl e ent m) :
    runClient s thisRun cl = (cl, { update := none, mutEnts := [] }) :=
  runClient_idle s thisRun cl hd hr hm hl hq

/-- Stability, client: a frame without messages and with nothing applicable buffered leaves the
client's replicated state exactly as it was (`acks` and `notified` are the frame's outputs:
what it acknowledged and which ticks it reported as fully received). -/
theorem C01_stable_client (c : Client) (hc : c.connected = true) (hl : c.lastNotDisconnected = true)
    (hb : c.buffered = []) (ha : c.acks = []) (hn : c.notified = []) : frame c [] [] = c := by
  unfold frame applyBuffered
  cases c
  simp_all

/-- Convergence for a client that joins a server in quiescence, in one perfect round — a theorem
across both models (`Proofs/Fresh.lean`): the update message of the run, applied by a client at
the start of its session, gives the client every replicated entity with exactly the server's
replicated components and values (`Fresh.Good`), and nothing else.  (Blacklist policy, nothing
buffered, at least one replicated entity — otherwise no update message is sent —, distinct entity
ids, no entity-valued components: kind 4, see `Fresh.SessionStart`.) -/
theorem C01_joiner_converges (s : Server) (thisRun : Nat) (hw : s.white = false)
    (hd : s.despawnBuf = []) (hr : s.removalBuf = []) (hne : Fresh.viewMsgs s ≠ [])
    (hkeys : (s.world.map (·.1)).Nodup) (hplain : ∀ m ∈ Fresh.viewMsgs s, ∀ kv ∈ m.comps, kv.1 ≠ 4) :
    ∃ u, (runClient s thisRun Fresh.freshCli).2.update = some u ∧
      Fresh.Good s.tick { connected := true } (applyUpdate { connected := true } u) (Fresh.viewMsgs s) :=
  Fresh.fresh_round_trip s thisRun { connected := true } Fresh.session_start_new hw hd hr hne hkeys hplain

/-- … per entity and component (rules for distinct components): the client's value is the server's,
and it has no other component -/
theorem C01_joiner_values (s : Server) (thisRun : Nat) (hw : s.white = false)
    (hd : s.despawnBuf = []) (hr : s.removalBuf = []) (hne : Fresh.viewMsgs s ≠ [])
    (hkeys : (s.world.map (·.1)).Nodup) (hplain : ∀ m ∈ Fresh.viewMsgs s, ∀ kv ∈ m.comps, kv.1 ≠ 4)
    (hrates : (s.rates.map (·.1)).Nodup)
    (e : Nat) (ent : SEnt) (mk : Nat) (he : (e, ent) ∈ s.world) (hm : ent.marker = some mk) (k : Nat) :
    ∃ u ce cent, (runClient s thisRun Fresh.freshCli).2.update = some u ∧
      aget (applyUpdate { connected := true } u).s2c e = some ce ∧
      aget (applyUpdate { connected := true } u).world ce = some cent ∧
      aget cent.comps k = (((present s ent).map fun y => (y.1, y.2.2.val)).lookup k) := by
  obtain ⟨u, hu, ce, hmapped, hrecord⟩ := Fresh.fresh_round_trip_entity s thisRun { connected := true } Fresh.session_start_new
    hw hd hr hne hkeys hplain e ent mk he hm
  refine ⟨u, ce, _, hu, hmapped, hrecord, ?_⟩
  have hnd : (((present s ent).map fun y => (y.1, y.2.2.val)).map (·.1)).Nodup := by
    rw [List.map_map]
    exact present_keys_nodup s ent hrates
  -- nothing was there before (`aget [] k = none`), and `aget` is `List.lookup`
  exact (Fresh.assocOf_get k _ [] hnd).trans Option.or_none

/-- Non-vacuity: one round trip on the models — spawn, run, apply: the client holds the entity
with the server's values, and the next run is silent. -/
example :
    let s : Server := { rates := [(0, .every)], running := true, now := 5, lastRun := 2, tick := 1,
                        world := [(3, { marker := some 4, comps := [(0, { val := 8, added := 4, changed := 4 })] })] }
    let r := runClient s 6 { authorized := true }
    r.2.update = some { tick := 1, changes := [{ ent := 3, comps := [(0, 8)] }] } ∧
    (applyUpdate { connected := true } { tick := 1, changes := [{ ent := 3, comps := [(0, 8)] }] }).world
      = [(0, { marked := true, comps := [(0, 8)], hist := some 1 })] := by
  decide

/-- the history of known finding F4: entity 1 carries `A` (component 0, sent every tick) and `P`
(component 3, sent every third tick); both change after tick 1; tick 2 sends `A` alone (message
0), which the client acknowledges; four more ticks follow -/
def f4Ops : List Joint.Op :=
  [.start, .connect 0 true, .spawn 1 true [(0, 1), (3, 1)], .frame true 10 (fun _ => []),
   .mutate 1 0 2, .mutate 1 3 2, .frame true 10 (fun _ => [[1]]), .ack 0 [0],
   .frame true 10 (fun _ => []), .frame true 10 (fun _ => []), .frame true 10 (fun _ => []),
   .frame true 10 (fun _ => [])]

def f4Start : Joint.St := { srv := { rates := [(0, .every), (3, .periodic 3)] } }

/-- Known finding F4, machine-checked on the model (the implementation replays it:
`findings/F4.trace`): the acknowledgement of the message that carried `A` alone moves the
entity's tick past `P`'s change, and `P = 2` is never sent — not at tick 3 or 6, where its
period fires — although the server holds it. -/
theorem C01_known_finding_F4_witness :
    ((Joint.run f4Start f4Ops).2.map fun fr => fr.1.map fun o =>
        (o.2.update.map (fun u => u.changes.map (fun m => (m.ent, m.comps))), o.2.mutEnts.map (fun m => (m.ent, m.comps)))) =
      [[], [], [], [(some [(1, [(0, 1), (3, 1)])], [])], [], [], [(none, [(1, [(0, 2)])])], [],
       [(none, [])], [(none, [])], [(none, [])], [(none, [])]] := by
  rfl

theorem C01_known_finding_F4_server_value :
    ((Joint.run f4Start f4Ops).1.srv.world.map fun x => (x.1, x.2.comps.map fun c => (c.1, c.2.val))) = [(1, [(3, 2), (0, 2)])] := by
  decide

/-- **The same visible replicated entities, over ALL histories, across both models**
(`Proofs/Session.lean`; the statement of `C03_history_session`): after any history — entity
identifiers not reused, a stopped server sees a frame before a restart, no pre-spawn mappings —
that ends with a frame in which `send_replication` ran, every authorized client that has applied,
in order, the update messages sent to it in its session holds exactly the server entities that
carry the replication marker and are visible to it, and applying those messages never failed.
(Mutate messages do not create or remove entities: the set depends on the update messages only,
so this is the "same visible replicated entities" clause of C01 whatever happened to the
unreliable channel.) -/
theorem C01_history_same_entities (s0 : Server) (hw : s0.world = []) (hc0 : s0.clients = []) (hb : s0.removalBuf = [])
    (ops : List Joint.Op) (ticked : Bool) (ms : Nat) (parts : Nat → List (List Nat))
    (hl : Joint.Legal2 { srv := s0 } (ops ++ [.frame ticked ms parts]))
    (hr : (Joint.run { srv := s0 } ops).1.srv.running = true)
    (hc : (preRun (Joint.run { srv := s0 } ops).1.srv ticked ms).tickChanged = true) :
    ∀ x ∈ (Joint.run { srv := s0 } (ops ++ [.frame ticked ms parts])).1.srv.clients, x.2.authorized = true →
      WF (Joint.replay ((Joint.runLog { srv := s0 } (fun _ => []) (ops ++ [.frame ticked ms parts])).2 x.1)) ∧
      ∀ se, held (Joint.replay ((Joint.runLog { srv := s0 } (fun _ => []) (ops ++ [.frame ticked ms parts])).2 x.1)) se ↔
        marked (Joint.run { srv := s0 } (ops ++ [.frame ticked ms parts])).1.srv.world se ∧
        Vis.isVisible (Joint.run { srv := s0 } (ops ++ [.frame ticked ms parts])).1.srv.white (cell x.2 se) = true :=
  Joint.session_view s0 hw hc0 hb ops ticked ms parts hl hr hc

/-- **… under any behaviour of the unreliable channel** (`Joint.session_view_any_schedule`): the
same statement for a receiver that gets the session's update messages in order and, anywhere in
between, arbitrary mutate messages — lost, duplicated, reordered, stale, or never sent by this
server at all (`Arrival`, `runArrivals`): it stays well-formed and holds exactly the replicated
entities visible to it.  The clause of C01 about *which entities* therefore holds for every
history of the server and every schedule of both channels that delivers the update messages. -/
theorem C01_history_same_entities_any_schedule (s0 : Server) (hw : s0.world = []) (hc0 : s0.clients = [])
    (hb : s0.removalBuf = []) (ops : List Joint.Op) (ticked : Bool) (ms : Nat) (parts : Nat → List (List Nat))
    (hl : Joint.Legal2 { srv := s0 } (ops ++ [.frame ticked ms parts]))
    (hr : (Joint.run { srv := s0 } ops).1.srv.running = true)
    (hc : (preRun (Joint.run { srv := s0 } ops).1.srv ticked ms).tickChanged = true) :
    ∀ x ∈ (Joint.run { srv := s0 } (ops ++ [.frame ticked ms parts])).1.srv.clients, x.2.authorized = true →
      ∀ arrivals : List Arrival,
        updatesOf arrivals = (Joint.runLog { srv := s0 } (fun _ => []) (ops ++ [.frame ticked ms parts])).2 x.1 →
        WF (runArrivals {} arrivals) ∧
        ∀ se, held (runArrivals {} arrivals) se ↔
          marked (Joint.run { srv := s0 } (ops ++ [.frame ticked ms parts])).1.srv.world se ∧
          Vis.isVisible (Joint.run { srv := s0 } (ops ++ [.frame ticked ms parts])).1.srv.white (cell x.2 se) = true :=
  Joint.session_view_any_schedule s0 hw hc0 hb ops ticked ms parts hl hr hc

/-- **… each with the same replicated components, over ALL histories, across both models**
(`Joint.session_components`; the statement of `C03_history_structure`): for every entity the
client holds, the client model fed the session's update messages in order has exactly the
replicated component kinds the server entity carries.  (Component *values* are C02's subject and
are checked on the implementation; see `C01_converges_partial` in the head comment.) -/
theorem C01_history_same_components (s0 : Server) (hw : s0.world = []) (hc0 : s0.clients = []) (hb : s0.removalBuf = [])
    (ht : s0.lastRun < s0.now)
    (ops : List Joint.Op) (ticked : Bool) (ms : Nat) (parts : Nat → List (List Nat))
    (hl : Joint.Legal2 { srv := s0 } (ops ++ [.frame ticked ms parts]))
    (hr : (Joint.run { srv := s0 } ops).1.srv.running = true)
    (hc : (preRun (Joint.run { srv := s0 } ops).1.srv ticked ms).tickChanged = true) :
    ∀ x ∈ (Joint.run { srv := s0 } (ops ++ [.frame ticked ms parts])).1.srv.clients, x.2.authorized = true →
      ∀ e, e ∈ keys x.2 → ∀ ent, (e, ent) ∈ (Joint.run { srv := s0 } (ops ++ [.frame ticked ms parts])).1.srv.world →
        ∀ k, k ∈ kindsOn (Joint.replay ((Joint.runLog { srv := s0 } (fun _ => []) (ops ++ [.frame ticked ms parts])).2 x.1)) e ↔
          k ∈ presentKinds (Joint.run { srv := s0 } (ops ++ [.frame ticked ms parts])).1.srv ent :=
  Joint.session_components s0 hw hc0 hb ht ops ticked ms parts hl hr hc

/-- `C01_history_same_entities_any_schedule` for histories in which the tick also advances by more
than one at once (`Joint.OpJ`, `Proofs/Jump.lean`: `ServerTick::increment_by` under the manual tick
policy): after any such history that ends with a frame in which `send_replication` ran, a receiver
that gets the session's update messages in order and, anywhere in between, arbitrary mutate
messages stays well-formed and holds exactly the replicated entities visible to it. -/
theorem C01_history_same_entities_with_tick_jumps (s0 : Server) (hw : s0.world = []) (hc0 : s0.clients = [])
    (hb : s0.removalBuf = []) (ht : s0.lastRun < s0.now) (ops : List Joint.OpJ)
    (hl : Joint.LegalJ { srv := s0 } ops) (ticked : Bool) (ms : Nat) (parts : Nat → List (List Nat))
    (hr : (Joint.runLogJ { srv := s0 } (fun _ => []) ops).1.srv.running = true)
    (hc : (preRun (Joint.runLogJ { srv := s0 } (fun _ => []) ops).1.srv ticked ms).tickChanged = true) :
    ∀ x ∈ (Joint.step (Joint.runLogJ { srv := s0 } (fun _ => []) ops).1 (.frame ticked ms parts)).1.srv.clients,
      x.2.authorized = true →
      ∀ arrivals : List Arrival,
        updatesOf arrivals = Joint.logStep (Joint.runLogJ { srv := s0 } (fun _ => []) ops).1
          (Joint.runLogJ { srv := s0 } (fun _ => []) ops).2 (.frame ticked ms parts) x.1 →
        WF (runArrivals {} arrivals) ∧
        ∀ se, held (runArrivals {} arrivals) se ↔
          marked (Joint.step (Joint.runLogJ { srv := s0 } (fun _ => []) ops).1 (.frame ticked ms parts)).1.srv.world se ∧
          Vis.isVisible (Joint.step (Joint.runLogJ { srv := s0 } (fun _ => []) ops).1 (.frame ticked ms parts)).1.srv.white
            (cell x.2 se) = true :=
  Joint.session_any_schedule_with_jumps s0 hw hc0 hb ht ops hl ticked ms parts hr hc

end Replicon.C01
