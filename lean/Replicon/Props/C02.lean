import Replicon.Proofs.KindsSession
import Replicon.Proofs.Tick
import Replicon.Proofs.RecordValues
import Replicon.Proofs.FramePerfect
import Replicon.Proofs.Belief
/-
C02 — Confirmed tick is truthful.

Models: `Model/Server.lean` (what a run sends for an entity and how the server's belief
`mutTick` moves), `Model/Client.lean` (how records are applied), both in lock step with the real
apps.  Proved: the facts that make the confirmed tick truthful; the composition over whole
histories — `C02_truthful_partial`: "for every reachable state the client's values equal the
server's at the confirmed tick" — is evaluated as an oracle on the implementation after every
client frame and is not proved as one theorem: the invariant that bounds `mutTick` and the messages
in flight is proved (`C11_history_belief`), what is missing is the induction over the receiver's
state, which needs a ghost log of the mutate records.  Known finding F20 is a violation of the base
case.
-/
/-! ### the client's tick decisions as the code takes them

`Model/Client.lean` keeps ticks as unbounded naturals and decides `apply_mutations` with the plain
order (`tick > last`), and `apply_mutate_messages` with `updateTick ≤ c.updateTick`.  The code holds
`RepliconTick(u32)` and compares in the wrapping order (`Ord for RepliconTick`).  These are the code's
decisions on residues. -/

namespace Replicon.Cli
open Replicon.Srv

/-- `apply_mutations` for one entity record as the code decides it: the message tick and the
entity's last confirmed tick are `u32` residues compared by `RepliconTick::cmp` -/
def applyMutEntW (c : Client) (tick : Nat) (m : MsgEnt) : Res Client :=
  match aget c.s2c m.ent with
  | none => .ok c
  | some ce =>
    match aget c.world ce with
    | none => .err
    | some ent =>
      match ent.hist with
      | none => .err
      | some last =>
        if tickGt (tick % 4294967296) (last % 4294967296) then .ok (writeComps (confirm c ce tick) ce m.comps)
        else .ok c

/-- the same with the residues compared as plain numbers (`message_tick.get() > last_tick.get()`) -/
def applyMutEntRaw (c : Client) (tick : Nat) (m : MsgEnt) : Res Client :=
  match aget c.s2c m.ent with
  | none => .ok c
  | some ce =>
    match aget c.world ce with
    | none => .err
    | some ent =>
      match ent.hist with
      | none => .err
      | some last =>
        if tick % 4294967296 > last % 4294967296 then .ok (writeComps (confirm c ce tick) ce m.comps)
        else .ok c

/-- the message tick is less than half the `u32` range away from the confirmed tick of the entity the
record names (if it names a live entity with a confirmed tick) -/
def NearHist (c : Client) (tick : Nat) (m : MsgEnt) : Prop :=
  ∀ ce ent last, aget c.s2c m.ent = some ce → aget c.world ce = some ent → ent.hist = some last → Near tick last

/-- the gate of `apply_mutate_messages` as the code decides it -/
def readyW (updateTick mUpdateTick : Nat) : Bool :=
  tickLe (mUpdateTick % 4294967296) (updateTick % 4294967296)

/-- across the wrap the raw comparison skips a newer message: the entity was confirmed at
tick 4294967291, the message has tick 4294967299 (residue 3) -/
def wrapWitness : Client :=
  { s2c := [(0, 0)], c2s := [(0, 0)],
    world := [(0, { marked := true, comps := [(0, 1)], hist := some 4294967291 })] }

def worldOf : Res Client → List (Nat × CEnt)
  | .ok c => c.world
  | _ => []

end Replicon.Cli

namespace Replicon.C02
open Replicon.Srv Replicon.Cli

/-- A mutate record is applied to an entity completely — tick confirmed *and* every component
of the record written — or not at all: never a mixture of two ticks from one message. -/
theorem C02_record_atomic (c : Client) (tick : Nat) (m : MsgEnt) (c' : Client)
    (h : applyMutEnt c tick m = .ok c') :
    c' = c ∨ ∃ ce last, aget c.s2c m.ent = some ce ∧ (∃ ent, aget c.world ce = some ent ∧ ent.hist = some last) ∧
      last < tick ∧ c' = writeComps (confirm c ce tick) ce m.comps :=
  applyMutEnt_atomic c tick m c' h

/-- The confirmed tick never moves backwards through a mutate record: the record is applied
only if its tick is newer than the confirmed one. -/
theorem C02_monotone (c : Client) (tick : Nat) (m : MsgEnt) (c' : Client) (ce : Nat) (ent : CEnt) (last : Nat)
    (h : applyMutEnt c tick m = .ok c') (hs : aget c.s2c m.ent = some ce) (hw : aget c.world ce = some ent)
    (hh : ent.hist = some last) (hold : ¬ tick > last) : c' = c := by
  unfold applyMutEnt at h
  simp only [hs, hw, hh, if_neg hold] at h
  cases h; rfl

/-- What the server sends for an entity it believes the client has at tick `t`: *every*
continuously replicated component changed after `t` (so the record brings the entity to the
run's tick as a whole), in closed form. -/
theorem C02_record_complete (s : Server) (thisRun : Nat) (cl : Cli) (e : Nat) (ent : SEnt) (m t : Nat)
    (k : Nat) (c : Comp)
    (hvis : visState s cl e = .visible) (hk : aget cl.mutTick e = some t)
    (hold : ¬ m > s.lastRun) (hm : (k, Rate.every, c) ∈ present s ent)
    (hadded : ¬ c.added > s.lastRun) (hchanged : c.changed > t) :
    (∃ u, (collectEntity s thisRun cl e ent m).toUpdate = some u ∧ (k, c.val) ∈ u.comps) ∨
    (∃ u, (collectEntity s thisRun cl e ent m).toMutate = some u ∧ (k, c.val) ∈ u.comps) :=
  collect_resend s thisRun cl e ent m t k .every c hvis hk hold hm hadded hchanged rfl

/-- The server's belief moves only by acknowledgements of messages that contained the entity,
and only up to the tick of that message's run (`C11_ack_sound`), and (F1 repair) the client
acknowledges a message only in the frame in which it applies it: -/
theorem C02_ack_on_apply (c : Client) :
    (applyBuffered c).acks = c.acks ++ ((c.buffered.filter fun m => !(m.updateTick > c.updateTick)).map (·.index)) ∧
    (applyBuffered c).buffered = c.buffered.filter fun m => m.updateTick > c.updateTick := by
  unfold applyBuffered
  simp only
  -- applying the ready messages and tracking them touch neither the acknowledgements nor the buffer
  have h := applyMutates_same (c.buffered.filter fun m => !(m.updateTick > c.updateTick))
    { c with buffered := c.buffered.filter fun m => m.updateTick > c.updateTick }
  have h' := trackAll_keeps (c.buffered.filter fun m => !(m.updateTick > c.updateTick))
    ((c.buffered.filter fun m => !(m.updateTick > c.updateTick)).foldl applyMutate
      { c with buffered := c.buffered.filter fun m => m.updateTick > c.updateTick })
  exact ⟨by rw [h'.1, h.acks], by rw [h'.2, h.buffered]⟩

/-- Non-vacuity: the F1 scenario on the repaired model.  A mutate message for tick 2 that
depends on update tick 1 arrives first: it stays buffered and unacknowledged; when the updates
of ticks 1 and 3 arrive together it is applied (and skipped as outdated for the entity
confirmed at tick 3 — whose record of tick 3 carried the value, because the server had no
acknowledgement). -/
example :
    let m : Mutate := { updateTick := 1, tick := 2, index := 0, ents := [{ ent := 0, comps := [(0, 2)] }] }
    let c1 := frame { connected := true, lastNotDisconnected := true } [] [m]
    c1.acks = [] ∧ c1.buffered = [m] := by
  decide

/-- Known finding F20, machine-checked on the client model (replay: `findings/F20.trace`): a
mutate message that carries update tick 0 and overtakes the tick-0 update message is
acknowledged at once (index 0) and applied to nothing; the update message that follows brings
the older value, and the client confirms the entity at tick 0 with `5` while the server had
sent `9`.  (`NoMutateBeforeFirstUpdateAtTickZero` in known_findings.json.) -/
theorem C02_known_finding_F20_witness :
    let c : Client := { connected := true, lastNotDisconnected := true }
    let m : Mutate := { updateTick := 0, tick := 2, index := 0, ents := [{ ent := 7, comps := [(0, 9)] }] }
    let c1 := frame c [] [m]
    let c2 := frame c1 [{ tick := 0, changes := [{ ent := 7, comps := [(0, 5)] }] }] []
    c1.acks = [0] ∧ c1.buffered = [] ∧ c2.world = [(0, { marked := true, comps := [(0, 5)], hist := some 0 })] := by
  decide

/-- **Across the 32-bit wrap.**  The client model keeps ticks as unbounded naturals and applies a
mutate record iff its tick is larger than the entity's confirmed tick; the code holds `u32` ticks
and compares them in the wrapping order.  Whenever the message tick is less than half the counter
range away from the confirmed tick of the entity the record names — in particular across the wrap
point — the two decisions, and so the resulting client states, are the same. -/
theorem C02_tick_decision_across_wrap (c : Client) (tick : Nat) (m : MsgEnt) (h : Cli.NearHist c tick m) :
    Cli.applyMutEntW c tick m = Cli.applyMutEnt c tick m := by
  unfold applyMutEntW applyMutEnt
  cases hs : aget c.s2c m.ent with
  | none => rfl
  | some ce =>
    simp only
    cases hw : aget c.world ce with
    | none => rfl
    | some ent =>
      simp only
      cases hh : ent.hist with
      | none => rfl
      | some last =>
        simp only
        rw [tickGt_abs tick last (h ce ent last hs hw hh)]
        by_cases hgt : tick > last
        · rw [if_pos hgt, if_pos (decide_eq_true hgt)]
        · rw [if_neg hgt, if_neg (by simp [hgt])]

/-- … and the gate of `apply_mutate_messages` (a mutate message waits for its update message). -/
theorem C02_gate_across_wrap (updateTick mUpdateTick : Nat) (h : Near mUpdateTick updateTick) :
    Cli.readyW updateTick mUpdateTick = decide (mUpdateTick ≤ updateTick) :=
  tickLe_abs mUpdateTick updateTick h

/-- The wrapping order is needed: with the residues compared as plain numbers a record of tick
2^32 + 3 for an entity confirmed at tick 2^32 − 5 is skipped as outdated, while the model and the
wrapping comparison apply it (the hypothesis of `C02_tick_decision_across_wrap` holds for this
state).  This is the seeded change C02-e; the wrap-around cases of profile `sys` exhibit it on the
implementation. -/
theorem C02_raw_comparison_skips_newer :
    Cli.NearHist Cli.wrapWitness 4294967299 { ent := 0, comps := [(0, 2)] } ∧
    Cli.worldOf (Cli.applyMutEnt Cli.wrapWitness 4294967299 { ent := 0, comps := [(0, 2)] }) =
      [(0, { marked := true, comps := [(0, 2)], hist := some 4294967299 })] ∧
    Cli.worldOf (Cli.applyMutEntW Cli.wrapWitness 4294967299 { ent := 0, comps := [(0, 2)] }) =
      [(0, { marked := true, comps := [(0, 2)], hist := some 4294967299 })] ∧
    Cli.worldOf (Cli.applyMutEntRaw Cli.wrapWitness 4294967299 { ent := 0, comps := [(0, 2)] }) = Cli.wrapWitness.world := by
  refine ⟨?_, by decide, by decide, by decide⟩
  intro ce ent last h1 h2 h3
  cases h1
  cases h2
  cases h3
  unfold Near
  omega

/-- **What an update message says about a component is the server's current value — over ALL
histories, across both models** (`Proofs/RecordValues.lean`).  After any history of the joint server
model (entity identifiers not reused, a stopped server sees a frame before a restart, no pre-spawn
mappings; rules for distinct components), in the next frame of a running server, for every client
and every record of the CHANGES section of the update message sent to it — a new entity, an
insertion, or the pending mutations that must travel with an insertion or a removal — the record
names an entity of the server's world and the client model that was fed the session's update
messages in order and applies this one has, for every plain component kind the record names,
exactly the value the component has on the server in that tick.  (With `C02_record_complete`: the
record names every every-tick component changed since the server's belief.) -/
theorem C02_history_update_record_values (s0 : Server) (hw : s0.world = []) (hc0 : s0.clients = []) (hb : s0.removalBuf = [])
    (hrates : (s0.rates.map (·.1)).Nodup)
    (ops : List Joint.Op) (hl : Joint.Legal2 { srv := s0 } ops) (ticked : Bool) (ms : Nat)
    (hr : (Joint.run { srv := s0 } ops).1.srv.running = true)
    (z : Nat × Cli) (hz : z ∈ (Joint.run { srv := s0 } ops).1.srv.clients)
    (u : Update)
    (hu : (runClient (preRun (Joint.run { srv := s0 } ops).1.srv ticked ms)
        ((preRun (Joint.run { srv := s0 } ops).1.srv ticked ms).now + 1) (preG (Joint.run { srv := s0 } ops).1.srv ms z.2)).2.update = some u)
    (r : MsgEnt) (hrec : r ∈ u.changes) :
    ∃ ent, (r.ent, ent) ∈ (Joint.run { srv := s0 } ops).1.srv.world ∧
      ∀ k, k ∈ r.comps.map (·.1) →
        (Joint.replay ((Joint.runLog { srv := s0 } (fun _ => []) ops).2 z.1)).entityComps.contains k = false →
        ∃ rt comp, (k, rt, comp) ∈ present (Joint.run { srv := s0 } ops).1.srv ent ∧
          Cli.valOn (Cli.applyUpdate (Joint.replay ((Joint.runLog { srv := s0 } (fun _ => []) ops).2 z.1)) u) r.ent k = some comp.val := by
  have inv := Joint.sess_history s0 hw hc0 hb ops hl
  have nx := Joint.sess_next_run _ _ inv ticked ms hr z hz
  obtain ⟨ent, hwld, hv⟩ := frame_update_record_values _ nx.sync.worldNodup ((nx.rates.trans (Joint.run_rates ops _)) ▸ hrates)
    _ _ nx.mappings _ nx.wf u hu r hrec
  refine ⟨ent, nx.world ▸ hwld, fun k hk hplain => ?_⟩
  obtain ⟨rt, comp, hp, hval⟩ := hv k hk hplain
  exact ⟨rt, comp, by rw [← present_preRun]; exact hp, hval⟩

/-- **… and what a mutate message says**: every record `collect_changes` puts into the mutate
messages of a run (any server state, any client) names an entity of the server's world and
carries, for each of its kinds, the component's current value; a well-formed receiver that maps
the entity to a live entity confirmed at an older tick has exactly these values afterwards, and
every other value of every entity is unchanged (all or nothing per record: `C02_record_atomic`). -/
theorem C02_mutate_record_values (p : Server) (hrates : (p.rates.map (·.1)).Nodup)
    (x : Nat × Cli) (r : MsgEnt) (hr : r ∈ (runClient p (p.now + 1) x.2).2.mutEnts)
    (c : Client) (wf : WF c) (tick : Nat) (ce : Nat) (cent : CEnt) (last : Nat)
    (hs : aget c.s2c r.ent = some ce) (hw : aget c.world ce = some cent) (hh : cent.hist = some last) (hnew : tick > last) :
    ∃ ent c', (r.ent, ent) ∈ p.world ∧ Cli.applyMutEnt c tick r = .ok c' ∧ WF c' ∧
      (∀ k, k ∈ r.comps.map (·.1) → c.entityComps.contains k = false →
        ∃ rt comp, (k, rt, comp) ∈ present p ent ∧ Cli.valOn c' r.ent k = some comp.val) ∧
      (∀ se k, c.entityComps.contains k = false → ¬ (aget c.s2c se = some ce ∧ k ∈ r.comps.map (·.1)) →
        Cli.valOn c' se k = Cli.valOn c se k) := by
  obtain ⟨e, ent, m, hwld, _, hto⟩ := (mem_records p _ _ EntOut.toMutate r).mp (runClient_mutEnts p _ x.2 ▸ hr)
  have ro := collect_record_values p hrates _ _ e ent m r (Or.inr hto)
  obtain rfl := ro.entity
  have hv := confirmWrite_vals c r.ent ce tick r.comps wf hs ro.nodup
  refine ⟨ent, _, hwld, applyMutEnt_ready c tick r ce cent last hs hw hh hnew,
    (confirmWrite_effect c r.ent ce tick r.comps wf hs).1.wf, fun k hk hplain => ?_, fun se k hplain hne => ?_⟩
  · rw [hv r.ent k hplain, if_pos ⟨rfl, hk⟩]
    exact ro.aget k hk
  · rw [hv se k hplain, if_neg]
    exact fun h => hne ⟨h.1 ▸ hs, h.2⟩

/-- Non-vacuity of `C02_history_update_record_values`: entity 5 is known to client 0; an insertion
of kind 1 and a mutation of kind 0 in the same tick travel in one CHANGES record, and the replayed
client has the server's values 9 and 8 afterwards. -/
example :
    let s0 : Server := { rates := [(0, .every), (1, .every)] }
    let ops : List Joint.Op :=
      [.start, .connect 0 true, .spawn 5 true [(0, 7)], .frame true 10 (fun _ => []), .insert 5 1 9, .mutate 5 0 8]
    Joint.Legal2 { srv := s0 } ops ∧ (Joint.run { srv := s0 } ops).1.srv.running = true ∧
    ((Joint.frame (Joint.run { srv := s0 } ops).1 true 10 (fun _ => [])).2.1.map fun o =>
      (o.1, o.2.update.map fun u => u.changes.map fun m => (m.ent, m.comps))) = [(0, some [(5, [(1, 9), (0, 8)])])] ∧
    Cli.valOn (Joint.replay ((Joint.runLog { srv := s0 } (fun _ => []) (ops ++ [.frame true 10 (fun _ => [])])).2 0)) 5 0 = some 8 ∧
    Cli.valOn (Joint.replay ((Joint.runLog { srv := s0 } (fun _ => []) (ops ++ [.frame true 10 (fun _ => [])])).2 0)) 5 1 = some 9 := by
  refine ⟨by decide, by decide, by rfl, by decide, by decide⟩

/-- **An update message changes only the values it names** (`Proofs/ClientVals.lean`): for a
well-formed client and an update message without pre-spawn mappings whose records have distinct
kinds, the plain component `k` of server entity `se` keeps its value unless `se` is in DESPAWNS,
a REMOVALS record names `se` and `k`, or a CHANGES record for `se` names `k`. -/
theorem C02_update_changes_only_named_values (c : Client) (u : Update) (wf : WF c) (hm : u.mappings = []) (se k : Nat)
    (hplain : c.entityComps.contains k = false)
    (hd : se ∉ u.despawns) (hr : ∀ r ∈ u.removals, ¬ (se = r.1 ∧ k ∈ r.2))
    (hnd : ∀ m ∈ u.changes, (m.comps.map (·.1)).Nodup)
    (hc : ∀ m ∈ u.changes, ¬ (se = m.ent ∧ k ∈ m.comps.map (·.1))) :
    Cli.valOn (Cli.applyUpdate c u) se k = Cli.valOn c se k :=
  Cli.applyUpdate_vals_other c u wf hm se k hplain hd hr hnd hc

/-- **Every component the run has something to say about is named in a record**
(`Proofs/Server.lean`; any server state, any client, any visible entity): a present component is
named by the entity's CHANGES record or by its mutate record — whose values are the current ones,
`C02_history_update_record_values`, `C02_mutate_record_values` — unless the entity is known to the
client at some tick `t`, is not fresh, and the component was neither added in this tick window nor
changed after `t` with a send rate that fires in this tick.  Together with
`C02_update_changes_only_named_values`: what is not named is not touched, and what is not named
has not changed since the server's belief. -/
theorem C02_pending_component_is_named (s : Server) (thisRun : Nat) (cl : Cli) (e : Nat) (ent : SEnt) (m : Nat)
    (hv : visState s cl e ≠ Vis.State.hidden) (k : Nat) (r : Rate) (comp : Comp)
    (hp : (k, r, comp) ∈ present s ent) :
    (∃ rec, (collectEntity s thisRun cl e ent m).toUpdate = some rec ∧ k ∈ rec.comps.map (·.1)) ∨
    (∃ rec, (collectEntity s thisRun cl e ent m).toMutate = some rec ∧ k ∈ rec.comps.map (·.1)) ∨
    (∃ t, aget cl.mutTick e = some t ∧ ¬ m > s.lastRun ∧ visState s cl e ≠ Vis.State.gained ∧
      ¬ comp.added > s.lastRun ∧ ¬ (comp.changed > t ∧ r.sendMutations s.tick = true)) := by
  by_cases hpath : compPath s (aget cl.mutTick e) (decide (m > s.lastRun) || decide (visState s cl e = Vis.State.gained)) r comp = Path.nothing
  · obtain ⟨t, hno⟩ := compPath_nothing s _ _ r comp hpath
    have h2 := hno.notFresh
    simp only [Bool.or_eq_false_iff, decide_eq_false_iff_not] at h2
    exact Or.inr (Or.inr ⟨t, hno.known, h2.1, h2.2, hno.notAdded, hno.notChanged⟩)
  · rcases collect_named_val s thisRun cl e ent m hv k r comp hp hpath with ⟨rec, h, hm⟩ | ⟨rec, h, hm⟩
    · exact Or.inl ⟨rec, h, List.mem_map_of_mem (f := (·.1)) hm⟩
    · exact Or.inr (Or.inl ⟨rec, h, List.mem_map_of_mem (f := (·.1)) hm⟩)

/-- **One replication run, both sides, EVERY value — under perfect delivery** (`Proofs/ClientVals.lean`,
`RunRecords.lean`, `FramePerfect.lean`).  In a server state that satisfies the
invariants of the history theorems (`SyncInv`, `KindInv`; rules for distinct
components), for a client without pending pre-spawn mapping whose belief ticks are not ahead of the
last run, and a well-formed receiver that
  * has every tracked entity confirmed at a tick older than this run's, and
  * has the server's value of every every-tick plain component that was neither added nor changed
    since the last run:
after the receiver applies the run's update message (if any) and then every record of the run's
mutate messages (`recvRun`), it has, for EVERY entity the server tracks for the client after the
run and EVERY every-tick plain component of it, exactly the server's current value.  This is the
inductive step of "the client's values are the server's after every run" for a link that loses
nothing: the second hypothesis is what the conclusion gives for the next run, because every change
between two runs is stamped after the earlier one (Bevy's change ticks).  (`RunCtx` also carries
`RemovalsMarked p` and that the receiver holds exactly the tracked entities; the proof needs neither.)
What is not proved is the induction itself over `Joint.Op` (the first receiver hypothesis as an
invariant of histories; `hbel` is one: `C02_history_run_values_perfect_delivery`), and nothing is claimed for links that lose mutate messages — there the argument
goes through the acknowledgements (`C11_ack_sound`) and is checked by the value oracle. -/
theorem C02_run_values_perfect_delivery (p : Server) (x : Nat × Cli) (c : Client) (ctx : RunCtx p x c)
    (hbel : ∀ e t, aget x.2.mutTick e = some t → t ≤ p.lastRun)
    (hready : ∀ e, e ∈ keys x.2 → Cli.Ready p.tick c e)
    (hQ : ∀ e, e ∈ keys x.2 → ∀ ent, (e, ent) ∈ p.world → ∀ k comp, (k, Rate.every, comp) ∈ present p ent →
      c.entityComps.contains k = false → ¬ comp.added > p.lastRun → ¬ comp.changed > p.lastRun →
      Cli.valOn c e k = some comp.val)
    (e : Nat) (he : e ∈ keys (runClient p (p.now + 1) x.2).1) (ent : SEnt) (hw : (e, ent) ∈ p.world)
    (k : Nat) (comp : Comp) (hp : (k, Rate.every, comp) ∈ present p ent) (hplain : c.entityComps.contains k = false) :
    Cli.valOn (recvRun c (runClient p (p.now + 1) x.2).2 p.tick) e k = some comp.val :=
  frame_values_perfect p ctx.sinv.worldNodup ctx.hrates ctx.kinv x.2 (ctx.sinv.sync x ctx.hx) ctx.hmap c ctx.wf
    hbel hready hQ e he ent hw k comp hp hplain

/-- The run of `C02_run_values_perfect_delivery` on a concrete history: entity 5 is known to client 0
with components 7 and 2; component 0 is mutated to 9; the next run sends no update message and one
mutate record `(5, [(0, 9)])`; the receiver fed the session's update messages has 9 and 2
afterwards.  (The hypotheses of the theorem are the invariants `Joint.sync_run`, `Joint.rem_run`
and `Joint.ksess_run` establish for every history.) -/
example :
    let s0 : Server := { rates := [(0, .every), (1, .every)] }
    let ops : List Joint.Op :=
      [.start, .connect 0 true, .spawn 5 true [(0, 7), (1, 2)], .frame true 10 (fun _ => []), .mutate 5 0 9]
    let p := preRun (Joint.run { srv := s0 } ops).1.srv true 10
    let c := Joint.replay ((Joint.runLog { srv := s0 } (fun _ => []) ops).2 0)
    (p.clients.map fun x => ((runClient p (p.now + 1) x.2).2.update.isSome,
      (runClient p (p.now + 1) x.2).2.mutEnts.map fun m => (m.ent, m.comps))) = [(false, [(5, [(0, 9)])])] ∧
    (p.clients.map fun x => Cli.valOn (recvRun c (runClient p (p.now + 1) x.2).2 p.tick) 5 0) = [some 9] ∧
    (p.clients.map fun x => Cli.valOn (recvRun c (runClient p (p.now + 1) x.2).2 p.tick) 5 1) = [some 2] ∧
    Cli.valOn c 5 0 = some 7 := by
  decide

/-- **… after ANY history** (`Proofs/FramePerfect.lean`, `Proofs/Belief.lean`): every server-side hypothesis of
`C02_run_values_perfect_delivery` is an invariant of histories (`SyncInv`, `KindInv`, and
the belief bound `C11_history_belief`), so after any history of the joint server model (entity
identifiers not reused, a stopped server sees a frame before a restart, no pre-spawn mappings;
rules for distinct components), in the next frame of a running server and for every client, only
the hypotheses about the receiver remain: it is well-formed, has each tracked entity confirmed
at an older tick, and has the current value of every every-tick plain component neither added nor
changed since the last run (that it holds exactly the tracked entities, `hh`, only fills `RunCtx`;
the argument does not need it).  Then it has, after the run's update message and every record of its
mutate messages, the current value of every every-tick plain component of every entity tracked
after the run. -/
theorem C02_history_run_values_perfect_delivery (s0 : Server) (hw : s0.world = []) (hc0 : s0.clients = [])
    (hb : s0.removalBuf = []) (ht : s0.lastRun < s0.now) (hrates : (s0.rates.map (·.1)).Nodup)
    (ops : List Joint.Op) (hl : Joint.Legal2 { srv := s0 } ops) (ticked : Bool) (ms : Nat)
    (hr : (Joint.run { srv := s0 } ops).1.srv.running = true)
    (z : Nat × Cli) (hz : z ∈ (Joint.run { srv := s0 } ops).1.srv.clients)
    (c : Client) (wf : WF c) (hh : ∀ se, held c se ↔ se ∈ keys z.2)
    (hready : ∀ e, e ∈ keys z.2 → Cli.Ready (preRun (Joint.run { srv := s0 } ops).1.srv ticked ms).tick c e)
    (hQ : ∀ e, e ∈ keys z.2 → ∀ ent, (e, ent) ∈ (Joint.run { srv := s0 } ops).1.srv.world → ∀ k comp,
      (k, Rate.every, comp) ∈ present (Joint.run { srv := s0 } ops).1.srv ent →
      c.entityComps.contains k = false → ¬ comp.added > (Joint.run { srv := s0 } ops).1.srv.lastRun →
      ¬ comp.changed > (Joint.run { srv := s0 } ops).1.srv.lastRun → Cli.valOn c e k = some comp.val)
    (e : Nat)
    (he : e ∈ keys (runClient (preRun (Joint.run { srv := s0 } ops).1.srv ticked ms)
      ((preRun (Joint.run { srv := s0 } ops).1.srv ticked ms).now + 1) (preG (Joint.run { srv := s0 } ops).1.srv ms z.2)).1)
    (ent : SEnt) (hwld : (e, ent) ∈ (Joint.run { srv := s0 } ops).1.srv.world)
    (k : Nat) (comp : Comp) (hp : (k, Rate.every, comp) ∈ present (Joint.run { srv := s0 } ops).1.srv ent)
    (hplain : c.entityComps.contains k = false) :
    Cli.valOn (recvRun c (runClient (preRun (Joint.run { srv := s0 } ops).1.srv ticked ms)
      ((preRun (Joint.run { srv := s0 } ops).1.srv ticked ms).now + 1) (preG (Joint.run { srv := s0 } ops).1.srv ms z.2)).2
      (preRun (Joint.run { srv := s0 } ops).1.srv ticked ms).tick) e k = some comp.val := by
  have kinv := Joint.ksess_history s0 hw hc0 hb ht ops hl
  have nx := Joint.sess_next_run _ _ kinv.sess ticked ms hr z hz
  have bel := preRun_bel _ ticked ms (Joint.history_belief s0 hc0 ht ops)
  have ctx : RunCtx (preRun (Joint.run { srv := s0 } ops).1.srv ticked ms) (z.1, preG (Joint.run { srv := s0 } ops).1.srv ms z.2) c :=
    ⟨nx.sync, nx.rem, preRun_kind _ ticked ms hr kinv.kind, (nx.rates.trans (Joint.run_rates ops _)) ▸ hrates, nx.mem,
      nx.mappings, wf, fun se => (hh se).trans (nx.tracked se).symm⟩
  refine C02_run_values_perfect_delivery _ _ c ctx (bel.cli _ nx.mem).ticks
    (fun e he' => hready e ((nx.tracked e).mp he')) ?_ e he ent (nx.world ▸ hwld) k comp (by rw [present_preRun]; exact hp) hplain
  intro e' he' ent' hw' k' comp' hp' hpl' hna hnc
  rw [nx.lastRun] at hna hnc
  exact hQ e' ((nx.tracked e').mp he') ent' (nx.world ▸ hw') k' comp' (by rw [← present_preRun]; exact hp') hpl' hna hnc

end Replicon.C02
