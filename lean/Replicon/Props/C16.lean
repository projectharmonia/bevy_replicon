import Replicon.Proofs.Client
import Replicon.Proofs.Ops
/-
C16 — Pre-spawned client entities are adopted, not duplicated.

Model: `Model/Client.lean` (`apply_entity_mapping`, `ServerEntityMap`, the entity a record
lands on), `Model/Server.lean` (`ClientEntityMap` → MAPPINGS, which `decodeUpdate` /
`applyUpdate` read and apply before DESPAWNS, REMOVALS and CHANGES of the same message).
Known finding F21 (a despawn queued for a never-sent, hidden entity removes the pre-spawned
entity) is outside these theorems: it needs a DESPAWNS entry for the mapped entity.
-/
namespace Replicon.C16
open Replicon Replicon.Srv Replicon.Cli

/-- The mapping is applied: the server entity maps to the pre-spawned entity, which now
carries the replication marker, and no entity is created. -/
theorem C16_adopted (c : Client) (se p : Nat) (ent : CEnt) (h : aget c.world p = some ent) :
    aget (applyMapping c (se, p)).s2c se = some p ∧
    aget (applyMapping c (se, p)).world p = some { ent with marked := true } ∧
    (applyMapping c (se, p)).next = c.next := by
  unfold applyMapping
  simp only [h]
  exact ⟨aget_aset_same _ _ _, aget_aset_same _ _ _, rfl⟩

/-- All replication for the server entity then lands on that entity: the entity a REMOVALS or
CHANGES record for a mapped server entity is applied to (`targetEntity`) is the mapped one, and
finding it neither spawns anything nor changes the map. (The statement ends there: what the
record's components then do to the client is `confirm` and `writeComps`.) -/
theorem C16_lands_on_existing (c : Client) (se ce : Nat) (b : Bool) (ent : CEnt)
    (hs : aget c.s2c se = some ce) (hw : aget c.world ce = some ent) :
    ∃ c', targetEntity c se b = .ok (c', ce) ∧ c'.next = c.next ∧ c'.s2c = c.s2c ∧ c'.c2s = c.c2s := by
  refine ⟨_, targetEntity_live c se ce b ent hs hw, ?_⟩
  split <;> exact ⟨rfl, rfl, rfl⟩

/-- If the client's entity no longer exists the mapping is ignored … -/
theorem C16_gone_ignored (c : Client) (se p : Nat) (h : aget c.world p = none) :
    applyMapping c (se, p) = c := by
  unfold applyMapping
  simp only [h]

/-- … and the entity's first record spawns exactly one fresh, marked entity for it. -/
theorem C16_fresh_if_gone (c : Client) (se : Nat) (b : Bool) (hs : aget c.s2c se = none) :
    ∃ c', targetEntity c se b = .ok (c', c.next) ∧ c'.next = c.next + 1 ∧
      aget c'.s2c se = some c.next ∧ aget c'.world c.next = some { marked := true } := by
  exact ⟨_, targetEntity_unmapped c se b hs, rfl, aget_aset_same _ _ _, aget_aset_same _ _ _⟩

/-- Other clients are unaffected: registering a mapping touches only that client's state. -/
theorem C16_others_unaffected (s : Server) (c c' e p : Nat) (h : c' ≠ c) :
    aget (s.addMapping c e p).clients c' = aget s.clients c' :=
  aget_updClient_other s c c' _ h

/-- Non-vacuity: a message carrying the mapping and the entity's first record. -/
example :
    let c : Client := { connected := true, world := [(100000, {})] }
    let c' := applyUpdate c { tick := 3, mappings := [(7, 100000)], changes := [{ ent := 7, comps := [(0, 5)] }] }
    c'.s2c = [(7, 100000)] ∧ c'.world = [(100000, { marked := true, comps := [(0, 5)], hist := some 3 })] ∧ c'.next = 0 := by
  decide

/-- Known finding F21, machine-checked on the client model (replays: `findings/F21.trace`,
`findings/F21-marker.trace`): an update message with MAPPINGS [7 ↦ p], DESPAWNS [7] and
CHANGES [7] — what the server sends when a despawn was queued for an entity the client was never
sent — maps 7 to the pre-spawned entity, despawns it through that mapping, and then spawns a
fresh entity for 7: the pre-spawned entity is not adopted. -/
theorem C16_known_finding_F21_witness :
    let c : Client := { connected := true, world := [(100000, {})] }
    let c' := applyUpdate c { tick := 3, mappings := [(7, 100000)], despawns := [7], changes := [{ ent := 7, comps := [(0, 5)] }] }
    c'.s2c = [(7, 0)] ∧ c'.world = [(0, { marked := true, comps := [(0, 5)], hist := some 3 })] := by
  decide

end Replicon.C16
