import Replicon.Proofs.Receive
import Replicon.Proofs.Server
import Replicon.Proofs.Ops
/-
C06 — No client input can crash or exhaust the server.

Model: `Model/Receive.lean` (`receive_acks`, `ClientEvent::receive_typed` with the default
deserializer and `trigger_deserialize`, for the client channels of the harness: acknowledgements,
the `ProtocolHash` trigger, an ordered `u32` event, a mapped event carrying an `Entity`, a
trigger with targets), `Model/Varint.lean` (postcard varints), `Model/EntityCodec.lean`
(`deserialize_entity`, `Entity::try_from_bits`), `Model/Server.lean` (`ack_mutate_message`).
`Res` has a `panic` constructor for every `unwrap` / overflow / `from_bits` site of the modelled
code; the theorems show it is unreachable and bound allocation and work by the message length.

Modelled, not verified: the Rust allocator and `Vec` growth (amortised doubling while pushing
decoded targets — bounded by the number of decoded targets, which `C06_work_bounded` bounds),
Bevy's event and observer machinery that runs once an event is accepted, user-supplied
deserializers of other event types.  The tie: the harness injects byte strings (exhaustive up to
a small length, structure-aware mutations of real messages, adversarial lengths) on every client
channel of a live server from authorized and unauthorized clients, runs the frame under
`catch_unwind` with a size-recording allocator, and the driver compares what the server-side
logic observed with `Recv.receive` on the same bytes; a second, well-behaved client's
convergence is checked afterwards (C01 oracle).
-/
namespace Replicon.C06
open Replicon Replicon.Recv Replicon.Srv

/-- No panic: whatever the bytes, on whatever channel, from an authorized client or not, the
receive path yields an effect — it never reaches a panic site. -/
theorem C06_never_panics (ch : Chan) (authorized : Bool) (bs : List Nat) :
    ∃ eff, receive ch authorized bs = .ok eff := by
  -- every channel but `acks` turns its decoder's value or error into an effect
  cases ch
  · exact ⟨_, rfl⟩
  · have h := trigger_safe decodeU64 decodeU64_safe bs
    unfold receive
    rcases h.ok_or_err with ⟨a, e⟩ | e <;> rw [e] <;> exact ⟨_, rfl⟩
  · unfold receive
    rcases (ord_safe bs).ok_or_err with ⟨a, e⟩ | e <;> rw [e] <;> exact ⟨_, rfl⟩
  · unfold receive
    rcases (mapped_safe bs).ok_or_err with ⟨a, e⟩ | e <;> rw [e] <;> exact ⟨_, rfl⟩
  · have h := trigger_safe decodeU32 decodeU32_safe bs
    unfold receive
    rcases h.ok_or_err with ⟨a, e⟩ | e <;> rw [e] <;> exact ⟨_, rfl⟩

/-- No allocation out of proportion: the capacity `trigger_deserialize` requests before it has
validated anything is at most the length of the message (repaired by the F10b `fix:` commit;
before it the capacity was the decoded length itself, up to 2^64). -/
theorem C06_allocation_bounded (bs : List Nat) : triggerCapacity bs ≤ bs.length := by
  unfold triggerCapacity
  have h := decodeU64_safe bs
  cases hd : decodeU64 bs with
  | ok nr => exact Nat.le_trans (Nat.min_le_right _ _) (Nat.le_of_lt (h.of_eq_ok hd).length_lt)
  | err => exact Nat.zero_le _
  | panic _ => exact Nat.zero_le _

/-- Work in proportion: an accepted trigger carries fewer targets than the message has bytes,
every one a valid entity identifier; an acknowledgement message yields at most one index per two
bytes, each a 16-bit value. -/
theorem C06_work_bounded (bs : List Nat) :
    (∀ ts v, (decodeTrigger decodeU32 bs = .ok (ts, v) ∨ decodeTrigger decodeU64 bs = .ok (ts, v)) →
      ts.length < bs.length ∧ ∀ e ∈ ts, ValidEntity e.1 e.2) ∧
    2 * (Wire.decodeAcks bs).length ≤ bs.length ∧
    ((∀ b ∈ bs, b < 256) → ∀ i ∈ Wire.decodeAcks bs, i < 65536) := by
  exact ⟨fun ts v h => h.elim (trigger_safe decodeU32 decodeU32_safe bs).of_eq_ok
      (trigger_safe decodeU64 decodeU64_safe bs).of_eq_ok,
    acks_length bs, acks_range bs⟩

/-- Malformed input is discarded: acknowledgements from a client without authorization are
dropped (repaired by the F5 `fix:` commit; before it the lookup of the sender's tick state
panicked) … -/
theorem C06_unauthorized_acks_dropped (bs : List Nat) : receive .acks false bs = .ok .dropped := rfl

/-- … and indices that name no message in flight — junk, duplicates, expired ones — leave the
sender's state exactly as it was, so the server keeps serving it as before. -/
theorem C06_junk_acks_harmless (cl : Cli) (idxs : List Nat)
    (h : ∀ i ∈ idxs, cl.inflight.find? (·.index = i) = none) :
    idxs.foldl ackOne cl = cl := by
  induction idxs with
  | nil => rfl
  | cons i is ih =>
    rw [List.foldl_cons, ackOne_unknown cl i (h i List.mem_cons_self)]
    exact ih fun j hj => h j (List.mem_cons_of_mem _ hj)

/-- a message of one client touches only that client's state -/
theorem C06_other_clients_untouched (s : Server) (c c' : Nat) (idxs : List Nat) (h : c' ≠ c) :
    aget (s.receiveAck c idxs).clients c' = aget s.clients c' :=
  aget_updClient_other s c c' _ h

/-- Non-vacuity and the repaired defects as evaluated examples: the nine bytes that used to
request a 2^64-element vector now request eight, and are dropped; an adversarial generation
overflows into `Err`, not into a panic. -/
example : triggerCapacity [255, 255, 255, 255, 255, 255, 255, 255, 255, 1] = 0 ∧
    triggerCapacity [255, 255, 255, 255, 255, 255, 255, 255, 127, 0, 0, 0, 0, 0, 0, 0, 0] = 8 ∧
    receive .hash false [255, 255, 255, 255, 255, 255, 255, 255, 255, 1] = .ok .dropped ∧
    receive .trigger true [1, 1, 255, 255, 255, 255, 15, 7] = .ok .dropped ∧
    receive .trigger true [1, 10, 7] = .ok (.event 7 [(5, 1)]) ∧
    receive .acks true [1, 0, 2, 0, 9] = .ok (.acks [1, 2]) := by
  decide

end Replicon.C06
