import Replicon.Proofs.Belief
/-
C11 — Acknowledged data is not re-sent and an idle server is silent.

Model: `Model/Server.lean` (`ClientTicks`: `register_mutate_message`, `ack_mutate_message`;
`collect_changes`; `send_messages`), driven in lock step with the real server by the trace
validation (every message of every generated tick is compared).
-/
namespace Replicon.C11
open Replicon.Srv

/-- Resend until acknowledged: in every replication run, a changed component of an entity
the client knows and sees — changed after the tick the server *believes* the client has — is in
the run's update or mutate message, whenever its send rate fires.  The belief (`mutTick`) only
moves through `C11_ack_sound`, so lost or late acknowledgements never stop the re-sending. -/
theorem C11_resend_until_ack (s : Server) (thisRun : Nat) (cl : Cli) (e : Nat) (ent : SEnt) (m t : Nat)
    (k : Nat) (r : Rate) (c : Comp)
    (hvis : visState s cl e = .visible) (hk : aget cl.mutTick e = some t)
    (hold : ¬ m > s.lastRun) (hm : (k, r, c) ∈ present s ent)
    (hadded : ¬ c.added > s.lastRun) (hchanged : c.changed > t) (hrate : r.sendMutations s.tick = true) :
    (∃ u, (collectEntity s thisRun cl e ent m).toUpdate = some u ∧ (k, c.val) ∈ u.comps) ∨
    (∃ u, (collectEntity s thisRun cl e ent m).toMutate = some u ∧ (k, c.val) ∈ u.comps) :=
  collect_resend s thisRun cl e ent m t k r c hvis hk hold hm hadded hchanged hrate

/-- Acknowledgement soundness: acknowledging a registered message moves the tick of an entity
only if the entity was in that message, only forward, and exactly to the tick of that message's
replication run — so everything changed after that run is still newer and keeps being sent. -/
theorem C11_ack_sound (cl : Cli) (idx : Nat) (info : Inflight)
    (h : cl.inflight.find? (·.index = idx) = some info) (j : Nat) :
    (aget (ackOne cl idx).mutTick j = aget cl.mutTick j) ∨
    (j ∈ info.ents ∧ ∃ t, aget cl.mutTick j = some t ∧ t ≤ info.tick ∧ aget (ackOne cl idx).mutTick j = some info.tick) := by
  rw [ackOne_known cl idx info h]
  exact ackFold_sound info cl.mutTick j

/-- Acknowledgements naming unknown messages (junk indices, duplicates, messages already
cleaned up) change nothing. -/
theorem C11_unknown_ack_noop (cl : Cli) (idx : Nat) (h : cl.inflight.find? (·.index = idx) = none) :
    ackOne cl idx = cl :=
  ackOne_unknown cl idx h

/-- An acknowledgement is consumed: repeating it changes nothing. -/
theorem C11_ack_once (cl : Cli) (idx : Nat) : ackOne (ackOne cl idx) idx = ackOne cl idx := by
  cases h : cl.inflight.find? (·.index = idx) with
  | none => rw [ackOne_unknown cl idx h, ackOne_unknown cl idx h]
  | some info =>
    -- the acknowledged message has left the messages in flight
    rw [ackOne_known cl idx info h]
    apply ackOne_unknown
    simp only
    rw [List.find?_eq_none]
    intro x hx
    simp only [List.mem_filter, decide_eq_true_eq] at hx
    simpa using hx.2

/-- Idle silence: when nothing is buffered or pending for the client and there is nothing to
say about any replicated entity (`Quiet`: known, visible, nothing newer than the acknowledged
tick or no firing send rate, no removal), the run sends the client no update message and no
mutations and leaves its state untouched.  (With per-tick tracking `Mutations::send` still
emits its empty bookkeeping message; that is the exception the property names.) -/
theorem C11_idle_silent (s : Server) (thisRun : Nat) (cl : Cli)
    (hd : s.despawnBuf = []) (hr : s.removalBuf = []) (hm : cl.mappings = []) (hl : NoLost s.white cl)
    (hq : ∀ e ent m, (e, ent) ∈ s.world → ent.marker = some m → Quiet s cl e ent m) :
    runClient s thisRun cl = (cl, { update := none, mutEnts := [] }) :=
  runClient_idle s thisRun cl hd hr hm hl hq

/-- Non-vacuity: a known, visible entity with one changed component: re-sent while the belief
is old, silent once it is acknowledged. -/
def exServer : Server :=
  { rates := [(0, .every)], running := true, lastRun := 5, now := 9, tick := 3,
    world := [(7, { marker := some 2, comps := [(0, { val := 42, added := 2, changed := 8 })] })] }

example : (runClient exServer 10 { authorized := true, mutTick := [(7, 6)] }).2.mutEnts = [{ ent := 7, comps := [(0, 42)] }] := by
  decide
example : (runClient exServer 10 { authorized := true, mutTick := [(7, 8)] }).2.mutEnts = [] ∧
    (runClient exServer 10 { authorized := true, mutTick := [(7, 8)] }).2.update = none := by
  decide

/-- **The server's belief never runs ahead of the last replication run — over ALL histories of the
joint server model** (`Proofs/Belief.lean`; no hypothesis on the history at all).  For every client
of every reachable state: every tick the server takes a tracked entity to be acknowledged at, and
the run tick of every mutate message still awaiting its acknowledgement, is at most the change tick
of the last replication run, which lies before the current change tick.  Together with Bevy's
change detection (every change between two runs is stamped after the earlier one) this is why
"changed after the belief" (`C11_resend_until_ack`) covers every change the client can have
missed, and why acknowledging (`C11_ack_sound`) can never move a belief past data that was not
yet sent. -/
theorem C11_history_belief (s0 : Srv.Server) (hc0 : s0.clients = []) (ht : s0.lastRun < s0.now) (ops : List Joint.Op) :
    (Joint.run { srv := s0 } ops).1.srv.lastRun < (Joint.run { srv := s0 } ops).1.srv.now ∧
    ∀ x ∈ (Joint.run { srv := s0 } ops).1.srv.clients,
      (∀ e t, Srv.aget x.2.mutTick e = some t → t ≤ (Joint.run { srv := s0 } ops).1.srv.lastRun) ∧
      (∀ i ∈ x.2.inflight, i.tick ≤ (Joint.run { srv := s0 } ops).1.srv.lastRun) :=
  Joint.history_belief s0 hc0 ht ops

/-- Non-vacuity of `C11_history_belief`: entity 5 is sent at run 2, mutated, re-sent in a mutate
message of run 4 (in flight: belief still 2, last run 4); after the acknowledgement the belief is 4,
the last run still 4, the clock at 7. -/
example :
    let s0 : Srv.Server := { rates := [(0, .every)] }
    let ops2 : List Joint.Op :=
      [.start, .connect 0 true, .spawn 5 true [(0, 7)], .frame true 10 (fun _ => []), .mutate 5 0 9,
       .frame true 10 (fun c => if c = 0 then [[5]] else [])]
    let ops : List Joint.Op := ops2 ++ [.ack 0 [0], .frame false 10 (fun _ => [])]
    ((Joint.run { srv := s0 } ops2).1.srv.clients.map fun x => (x.2.mutTick, x.2.inflight.map (·.tick)),
      (Joint.run { srv := s0 } ops2).1.srv.lastRun, (Joint.run { srv := s0 } ops2).1.srv.now) = ([([(5, 2)], [4])], 4, 5) ∧
    ((Joint.run { srv := s0 } ops).1.srv.clients.map fun x => (x.2.mutTick, x.2.inflight.map (·.tick)),
      (Joint.run { srv := s0 } ops).1.srv.lastRun, (Joint.run { srv := s0 } ops).1.srv.now) = ([([(5, 4)], [])], 4, 7) := by
  refine ⟨by rfl, by rfl⟩

end Replicon.C11
