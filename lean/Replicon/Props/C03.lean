import Replicon.Proofs.TwoWay
import Replicon.Proofs.Jump
/-
C03 — Structural changes reach clients atomically and in server order.

Models: `Model/Server.lean` (`send_replication`), `Model/Client.lean` (`apply_update_message`),
both driven in lock step with the real apps on every generated trace (every section of every
update message and the client's whole replicated structure after every client frame are
compared; 0 disagreements is the tie).

Order: an update message carries a tick larger than every earlier one of the session
(`C03_history_server_order`) and the client never applies an older tick (`C03_tick_monotone`), so
the ordered channel makes the client apply structural changes in server order.  Structure, over
all histories and across both models: entities, marker and components of the client model fed a
session's update messages are the server's view (`C03_history_structure`); the history theorems
before it are its layers, the theorems at the top the per-section facts.

Still **not** one theorem (`C03_structure_partial`): histories with
pre-spawn mappings (C16's per-message theorems), and the interleaving with mutate messages at the
component level (a mutate message never changes which entities are held —
`C01_history_same_entities_any_schedule` — but a stale one could re-insert a removed component if
the client did not compare ticks; that comparison is `applyMutEnt`'s, checked in lock step).
These parts are evaluated as an oracle on the implementation after every client frame.
-/
namespace Replicon.C03
open Replicon.Srv Replicon.Cli

/-- The update tick is exactly the tick of the last applied update message; with update
messages arriving in server order (reliable ordered channel) it never decreases. -/
theorem C03_tick_monotone (us : List Update) (c : Client) (h : Ordered c.updateTick us) :
    c.updateTick ≤ (us.foldl applyUpdate c).updateTick := by
  induction us generalizing c with
  | nil => exact Nat.le_refl _
  | cons u us ih =>
    have := ih (applyUpdate c u) (by rw [applyUpdate_tick]; exact h.2)
    rw [applyUpdate_tick] at this
    exact Nat.le_trans h.1 this

theorem C03_tick_is_message_tick (c : Client) (u : Update) : (applyUpdate c u).updateTick = u.tick :=
  applyUpdate_tick c u

/-- Server, one entity, hidden from the client: nothing about it enters any message. -/
theorem C03_hidden_nothing (s : Server) (thisRun : Nat) (cl : Cli) (e : Nat) (ent : SEnt) (m : Nat)
    (h : visState s cl e = .hidden) : collectEntity s thisRun cl e ent m = {} :=
  collect_hidden s thisRun cl e ent m h

/-- Server, an entity the client was never sent (newly visible, or a client authorized later):
it is written to the update message whole — all replicated components in one record, so the
client never sees it partially. -/
theorem C03_new_entity_whole (s : Server) (thisRun : Nat) (cl : Cli) (e : Nat) (ent : SEnt) (m : Nat)
    (hvis : visState s cl e ≠ .hidden) (hk : aget cl.mutTick e = none) :
    collectEntity s thisRun cl e ent m =
      { toUpdate := some { ent := e, comps := (present s ent).map fun x => (x.1, x.2.2.val) },
        toMutate := none, bump := true } :=
  collect_unknown_whole s thisRun cl e ent m hvis hk

/-- Server: an entity that left replication (despawn, marker removed) and that the client could
see is in the DESPAWNS section of the next run. -/
theorem C03_despawn_sent (s : Server) (cl : Cli) (e : Nat) (hm : e ∈ s.despawnBuf)
    (hv : Vis.isVisible s.white (cell cl e) = true) : e ∈ (despawnPhase s cl).2 :=
  despawnPhase_sends s cl e hm hv

/-- Server: an entity with an insertion or a buffered removal is sent *with its pending
mutations in the same update message* (so the entity's record is complete for the tick), and
the server's belief is bumped; in closed form. -/
theorem C03_entity_record_complete (s : Server) (thisRun : Nat) (cl : Cli) (e : Nat) (ent : SEnt) (m t : Nat)
    (hvis : visState s cl e = .visible) (hk : aget cl.mutTick e = some t) (hold : ¬ m > s.lastRun)
    (hins : (insOf s t ent).isEmpty = false) :
    collectEntity s thisRun cl e ent m =
      { toUpdate := some { ent := e, comps := insOf s t ent ++ mutOf s t ent }, toMutate := none, bump := true } := by
  rw [collect_known s thisRun cl e ent m t hvis hk hold]
  simp [entOut, hins]

/-- Client: the entity a CHANGES record lands on carries the replication marker afterwards,
also when it existed before only as the target of a reference (F8). -/
theorem C03_marker (c : Client) (se : Nat) (c' : Client) (ce : Nat) (h : targetEntity c se true = .ok (c', ce)) :
    ∃ ent, aget c'.world ce = some ent ∧ ent.marked = true := by
  rcases targetEntity_cases c se true with ⟨_, h'⟩ | ⟨_, _, _, h'⟩ | ⟨ce', ent, _, hw, h'⟩ <;> rw [h'] at h <;> cases h
  · exact ⟨{ marked := true }, aget_aset_same _ _ _, rfl⟩
  · by_cases hm : ent.marked = true
    · rw [if_neg (by simp [hm])]; exact ⟨ent, hw, hm⟩
    · rw [if_pos (by simp [hm])]; exact ⟨_, aget_aset_same _ _ _, rfl⟩

/-- Non-vacuity / order of sections on a concrete message: mapping, then despawn, then
removal, then changes, all at one tick. -/
example :
    let c : Client := { connected := true, s2c := [(1, 0)], c2s := [(0, 1)], next := 1,
                        world := [(0, { marked := true, comps := [(0, 9)], hist := some 2 })] }
    let c' := applyUpdate c { tick := 4, despawns := [1], changes := [{ ent := 2, comps := [(1, 7)] }] }
    c'.s2c = [(2, 1)] ∧ c'.world = [(1, { marked := true, comps := [(1, 7)], hist := some 4 })] ∧ c'.updateTick = 4 := by
  decide

/-- Server order, all histories: in the state any history of operations leads to, whatever the
next frame is, an update message it sends client `c` has a tick larger than every update
message sent to `c` before in its session (`sent c`), and is recorded as the newest one. -/
theorem C03_history_server_order (ops : List Joint.Op) (ticked : Bool) (ms : Nat) (parts : Nat → List (List Nat))
    (c : Nat) (o : ClientOut) (u : Update)
    (hm : (c, o) ∈ (Joint.frame (Joint.run {} ops).1 ticked ms parts).2.1) (hu : o.update = some u) :
    (∀ t ∈ (Joint.run {} ops).1.sent c, t < u.tick) ∧
    (Joint.frame (Joint.run {} ops).1 ticked ms parts).1.sent c = (Joint.run {} ops).1.sent c ++ [u.tick] ∧
    ((Joint.run {} ops).1.sent c).Pairwise (· < ·) := by
  have inv := (Joint.inv_run ops {} Joint.inv_init).1
  obtain ⟨h1, h2⟩ := Joint.frame_update_ghost _ ticked ms parts inv c o u hm hu
  exact ⟨h2, h1, inv.incr c⟩

/-- Non-vacuity of the history theorem: client 0 gets update messages at ticks 1 and 3 (tick 2
has nothing to say), client 1 is authorized late and gets its first one at tick 4. -/
example :
    let s0 : Joint.St := { srv := { rates := [(0, .every), (1, .every)] } }
    let ops : List Joint.Op :=
      [.start, .connect 0 true, .connect 1 false, .spawn 5 true [(0, 7)], .frame true 10 (fun _ => []),
       .frame true 10 (fun _ => []), .insert 5 1 9, .frame true 10 (fun _ => []), .authorize 1, .frame true 10 (fun _ => [])]
    ((Joint.run s0 ops).1.sent 0, (Joint.run s0 ops).1.sent 1) = ([1, 3], [4]) := by
  decide +kernel

/-- **Which entities a client holds, over ALL histories** (`Proofs/Sync.lean`, joint model):
after any history in which entity identifiers are not reused, from a server without entities
and clients (any visibility policy, any replication rules), whatever the next frame is — if
`send_replication` runs in it, then afterwards, for every authorized client, the entities the
server tracks for that client (`ClientTicks`) are exactly the entities that carry the
replication marker and are visible to that client. -/
theorem C03_history_entities (s0 : Server) (hw : s0.world = []) (hc0 : s0.clients = []) (ops : List Joint.Op)
    (hl : Joint.Legal { srv := s0 } ops) (ticked : Bool) (ms : Nat) (parts : Nat → List (List Nat))
    (hr : (Joint.run { srv := s0 } ops).1.srv.running = true)
    (hc : (preRun (Joint.run { srv := s0 } ops).1.srv ticked ms).tickChanged = true) :
    ∀ x ∈ (Joint.frame (Joint.run { srv := s0 } ops).1 ticked ms parts).1.srv.clients, x.2.authorized = true →
      ∀ e, e ∈ keys x.2 ↔
        marked (Joint.frame (Joint.run { srv := s0 } ops).1 ticked ms parts).1.srv.world e ∧
        Vis.isVisible (Joint.frame (Joint.run { srv := s0 } ops).1 ticked ms parts).1.srv.white (cell x.2 e) = true :=
  fullFrame_view _ ticked ms parts (Joint.sync_run ops _ (Joint.sync_empty s0 hw hc0) hl) hr hc

/-- **The update message is exactly the structural difference, over ALL histories**: for every
replication output of that frame, a receiver that held exactly the entities the server tracked
for the client before the frame, and that applies the frame's update message — DESPAWNS, then
CHANGES (`applyKeys`) — holds exactly the entities tracked after the frame (none, if no update
message was sent: then the tracked set did not change).  With `C03_history_entities` and the
reliable ordered channel (`C03_history_server_order`): tick by tick the receiver holds the
replicated entities visible to it, never a stale or a missing one.  (Components:
`C03_history_components`.) -/
theorem C03_history_message_is_difference (s0 : Server) (hw : s0.world = []) (hc0 : s0.clients = [])
    (ops : List Joint.Op) (hl : Joint.Legal { srv := s0 } ops) (ticked : Bool) (ms : Nat)
    (parts : Nat → List (List Nat))
    (hr : (Joint.run { srv := s0 } ops).1.srv.running = true)
    (hc : (preRun (Joint.run { srv := s0 } ops).1.srv ticked ms).tickChanged = true) :
    ∀ c o, (c, o) ∈ (Joint.frame (Joint.run { srv := s0 } ops).1 ticked ms parts).2.1 →
      ∃ cl cl', (c, cl) ∈ (preRun (Joint.run { srv := s0 } ops).1.srv ticked ms).clients ∧ cl.authorized = true ∧
        (c, cl') ∈ (Joint.frame (Joint.run { srv := s0 } ops).1 ticked ms parts).1.srv.clients ∧
        ∀ held : List Nat, (∀ e, e ∈ held ↔ e ∈ keys cl) → ∀ e, e ∈ applyKeys held o.update ↔ e ∈ keys cl' :=
  Joint.frame_out_tracks _ (Joint.sync_run ops _ (Joint.sync_empty s0 hw hc0) hl) ticked ms parts hr hc

/-- **Both sides of the wire, over ALL histories of the server** (`Proofs/ClientSync.lean`): after
any history in which entity identifiers are not reused and a stopped server sees a frame before
it is started again (the schedules C09 quantifies over), in the next frame, for every authorized
client without a pending pre-spawn mapping (those are C16's): a receiver — the client model of
`Model/Client.lean`, in any well-formed state — that holds exactly the server entities the
server tracks for that client, and applies the frame's update message with `applyUpdate`, stays
well-formed, no section of the message fails, and afterwards it holds (as live, marked, mapped
entities) exactly the entities the server tracks after the frame, i.e. by `C03_history_entities`
the replicated entities visible to it at that tick.  This is the inductive step of "the client's
set of replicated entities equals the server's view at the client's update tick"; its composition
along a session's message sequence is `C03_history_session`. -/
theorem C03_history_frame_both_sides (s0 : Server) (hw : s0.world = []) (hc0 : s0.clients = [])
    (hb : s0.removalBuf = []) (ops : List Joint.Op) (hl : Joint.Legal' { srv := s0 } ops)
    (ticked : Bool) (ms : Nat) (parts : Nat → List (List Nat))
    (hr : (Joint.run { srv := s0 } ops).1.srv.running = true)
    (x : Nat × Cli) (hx : x ∈ (preRun (Joint.run { srv := s0 } ops).1.srv ticked ms).clients)
    (ha : x.2.authorized = true) (hmap : x.2.mappings = [])
    (c : Client) (wf : WF c) (hh : ∀ se, held c se ↔ se ∈ keys x.2) :
    match (runClient (preRun (Joint.run { srv := s0 } ops).1.srv ticked ms)
        ((preRun (Joint.run { srv := s0 } ops).1.srv ticked ms).now + 1) x.2).2.update with
    | some u => WF (applyUpdate c u) ∧
        ∀ se, held (applyUpdate c u) se ↔
          se ∈ keys (ranClient (preRun (Joint.run { srv := s0 } ops).1.srv ticked ms) parts x).2
    | none => ∀ se, held c se ↔
          se ∈ keys (ranClient (preRun (Joint.run { srv := s0 } ops).1.srv ticked ms) parts x).2 :=
  Joint.history_both_sides s0 hw hc0 hb ops hl ticked ms parts hr x hx ha hmap c wf hh

/-- **End to end at the level of entities, over ALL histories, across both models**
(`Proofs/Session.lean`): after any history of the joint server model — entity identifiers not
reused, a stopped server sees a frame before it is started again, no pre-spawn mappings — that
ends with a frame in which `send_replication` ran, for every authorized client: the client model
of `Model/Client.lean`, started fresh and fed, in order, the update messages the server sent that
client since it connected (the ghost log `Joint.runLog`; the ordered reliable channel), is
well-formed — no section of any of those messages failed — and holds, as live mapped entities
carrying the replication marker, exactly the server entities that carry the replication marker
and are visible to that client.  A client that has applied only a prefix of those messages is
in the state this theorem describes for the history cut after the frame that sent the last of
them (its state depends on the update messages only), so it holds the server's view *at its
update tick*: the entity part of the C03 statement, for every history. -/
theorem C03_history_session (s0 : Server) (hw : s0.world = []) (hc0 : s0.clients = []) (hb : s0.removalBuf = [])
    (ops : List Joint.Op) (ticked : Bool) (ms : Nat) (parts : Nat → List (List Nat))
    (hl : Joint.Legal2 { srv := s0 } (ops ++ [.frame ticked ms parts]))
    (hr : (Joint.run { srv := s0 } ops).1.srv.running = true)
    (hc : (preRun (Joint.run { srv := s0 } ops).1.srv ticked ms).tickChanged = true) :
    ∀ x ∈ (Joint.run { srv := s0 } (ops ++ [.frame ticked ms parts])).1.srv.clients, x.2.authorized = true →
      WF (Joint.replay ((Joint.runLog { srv := s0 } (fun _ => []) (ops ++ [.frame ticked ms parts])).2 x.1)) ∧
      ∀ se, held (Joint.replay ((Joint.runLog { srv := s0 } (fun _ => []) (ops ++ [.frame ticked ms parts])).2 x.1)) se ↔
        marked (Joint.run { srv := s0 } (ops ++ [.frame ticked ms parts])).1.srv.world se ∧
        Vis.isVisible (Joint.run { srv := s0 } (ops ++ [.frame ticked ms parts])).1.srv.white (cell x.2 se) = true :=
  Joint.session_view s0 hw hc0 hb ops ticked ms parts hl hr hc

/-- **Which components each entity has, over ALL histories** (`Proofs/Kinds.lean`,
`Proofs/KindsSession.lean`; server side of the wire).  After any history of the joint server
model — entity identifiers not reused, a stopped server sees a frame before it is started again,
no pre-spawn mappings — that ends with a frame in which `send_replication` ran: for every
authorized client and every entity the server tracks for it, replaying for that entity the
DESPAWNS / REMOVALS / CHANGES records of the update messages sent to the client since it connected
(`ghostKinds`: a despawn forgets the entity's kinds, a removal record removes the kinds it names, a
change record adds the kinds it carries — the order in which the client applies the sections)
gives exactly the replicated component kinds the server entity carries now.  The invariant
behind it (`KindInv`, `CK`): a kind the receiver has and the entity no longer carries has a removal event pending or
buffered (Bevy's two-frame retention of removal events and `buffer_removals` running in every
frame of a running server are what make this true — the seeded changes C01-c / C03-d break
exactly this); a kind the entity carries and the receiver lacks was added after the last run
(`added > last_run`, so `collect_changes` writes it as an insertion); a kind with a pending
removal that the entity carries again was re-inserted after the last run. -/
theorem C03_history_components (s0 : Server) (hw : s0.world = []) (hc0 : s0.clients = []) (hb : s0.removalBuf = [])
    (ht : s0.lastRun < s0.now)
    (ops : List Joint.Op) (ticked : Bool) (ms : Nat) (parts : Nat → List (List Nat))
    (hl : Joint.Legal2 { srv := s0 } (ops ++ [.frame ticked ms parts]))
    (hr : (Joint.run { srv := s0 } ops).1.srv.running = true)
    (hc : (preRun (Joint.run { srv := s0 } ops).1.srv ticked ms).tickChanged = true) :
    ∀ x ∈ (Joint.run { srv := s0 } (ops ++ [.frame ticked ms parts])).1.srv.clients, x.2.authorized = true →
      ∀ e, e ∈ keys x.2 →
      ∀ ent, (e, ent) ∈ (Joint.run { srv := s0 } (ops ++ [.frame ticked ms parts])).1.srv.world →
        ∀ k, k ∈ ghostKinds ((Joint.runLog { srv := s0 } (fun _ => []) (ops ++ [.frame ticked ms parts])).2 x.1) e ↔
          k ∈ presentKinds (Joint.run { srv := s0 } (ops ++ [.frame ticked ms parts])).1.srv ent :=
  Joint.session_kinds s0 hw hc0 hb ht ops ticked ms parts hl hr hc

/-- **The client's replicated structure equals the server's, over ALL histories, across both
models** (`Proofs/Session.lean`, `Proofs/ClientKinds.lean`).  After any history of the joint server
model — entity identifiers not reused, a stopped server sees a frame before it is started again,
no pre-spawn mappings — that ends with a frame in which `send_replication` ran, for every
authorized client, the client model started fresh and fed in order the update messages sent to
that client since it connected:
* is well-formed (every mapped entity exists, the map is injective), its `client_to_server` map is
  exactly the inverse of `server_to_client` (`TwoWay`: a consistent two-way entity map), and no
  section of any message failed on it;
* holds, as live mapped entities carrying the replication marker, exactly the server entities
  that carry the marker and are visible to the client; and
* has on each of them exactly the replicated component kinds the server entity carries.
This is the statement of C03 — which server entities the client holds, which replicated
components each one has, the marker on each — at the tick of the last update message; a client
that has applied a prefix of the messages is the client of the history cut after the frame that
sent the last of them, so it holds the structure *at its update tick*.  Not covered by this
theorem (they stay oracles of the trace checker and per-message theorems): pre-spawn mappings
(C16), and component *values* (C02). -/
theorem C03_history_structure (s0 : Server) (hw : s0.world = []) (hc0 : s0.clients = []) (hb : s0.removalBuf = [])
    (ht : s0.lastRun < s0.now)
    (ops : List Joint.Op) (ticked : Bool) (ms : Nat) (parts : Nat → List (List Nat))
    (hl : Joint.Legal2 { srv := s0 } (ops ++ [.frame ticked ms parts]))
    (hr : (Joint.run { srv := s0 } ops).1.srv.running = true)
    (hc : (preRun (Joint.run { srv := s0 } ops).1.srv ticked ms).tickChanged = true) :
    ∀ x ∈ (Joint.run { srv := s0 } (ops ++ [.frame ticked ms parts])).1.srv.clients, x.2.authorized = true →
      WF (Joint.replay ((Joint.runLog { srv := s0 } (fun _ => []) (ops ++ [.frame ticked ms parts])).2 x.1)) ∧
      TwoWay (Joint.replay ((Joint.runLog { srv := s0 } (fun _ => []) (ops ++ [.frame ticked ms parts])).2 x.1)) ∧
      (∀ se, held (Joint.replay ((Joint.runLog { srv := s0 } (fun _ => []) (ops ++ [.frame ticked ms parts])).2 x.1)) se ↔
        marked (Joint.run { srv := s0 } (ops ++ [.frame ticked ms parts])).1.srv.world se ∧
        Vis.isVisible (Joint.run { srv := s0 } (ops ++ [.frame ticked ms parts])).1.srv.white (cell x.2 se) = true) ∧
      (∀ se, held (Joint.replay ((Joint.runLog { srv := s0 } (fun _ => []) (ops ++ [.frame ticked ms parts])).2 x.1)) se →
        ∀ ent, (se, ent) ∈ (Joint.run { srv := s0 } (ops ++ [.frame ticked ms parts])).1.srv.world →
          ∀ k, k ∈ kindsOn (Joint.replay ((Joint.runLog { srv := s0 } (fun _ => []) (ops ++ [.frame ticked ms parts])).2 x.1)) se ↔
            k ∈ presentKinds (Joint.run { srv := s0 } (ops ++ [.frame ticked ms parts])).1.srv ent) := by
  intro x hx ha
  obtain ⟨h1, h2⟩ := Joint.session_view s0 hw hc0 hb ops ticked ms parts hl hr hc x hx ha
  obtain ⟨_, h3⟩ := Joint.session_entities s0 hw hc0 hb _ hl x hx
  refine ⟨h1, Joint.session_twoWay s0 hw hc0 hb _ hl x hx, h2, ?_⟩
  intro se hheld ent hwld k
  exact Joint.session_components s0 hw hc0 hb ht ops ticked ms parts hl hr hc x hx ha se ((h3 se).mp hheld) ent hwld k

/-- Non-vacuity of `C03_history_components`: an insertion, a removal, a removal followed by a
re-insertion and a hide / show cycle; the hypotheses hold and the replayed kinds of entity 5 for
client 0 are [1, 2] (kind 0 was removed, kind 2 removed and re-inserted, kind 1 inserted). -/
example :
    let s0 : Server := { rates := [(0, .every), (1, .every), (2, .every)] }
    let ops : List Joint.Op :=
      [.start, .connect 0 true, .spawn 5 true [(0, 7), (2, 1)], .frame true 10 (fun _ => []),
       .insert 5 1 9, .remove 5 0, .frame false 10 (fun _ => []), .remove 5 2, .insert 5 2 4,
       .frame true 10 (fun _ => []), .vis 0 5 false, .frame true 10 (fun _ => []), .vis 0 5 true]
    Joint.Legal2 { srv := s0 } (ops ++ [.frame true 10 (fun _ => [])]) ∧
    (Joint.run { srv := s0 } ops).1.srv.running = true ∧
    (preRun (Joint.run { srv := s0 } ops).1.srv true 10).tickChanged = true ∧
    s0.lastRun < s0.now ∧
    ghostKinds ((Joint.runLog { srv := s0 } (fun _ => []) (ops ++ [.frame true 10 (fun _ => [])])).2 0) 5 = [1, 2] ∧
    kindsOn (Joint.replay ((Joint.runLog { srv := s0 } (fun _ => []) (ops ++ [.frame true 10 (fun _ => [])])).2 0)) 5 = [2, 1] := by
  decide +kernel

/-- Non-vacuity of `C03_history_session`: a history with a reconnect, a hidden entity and a
despawn satisfies the hypotheses; the replayed client of the second session holds entity 5 only
(mapped to its client entity 0), the one of client 1 holds 5 and 7. -/
example :
    let s0 : Server := { rates := [(0, .every), (1, .every)] }
    let ops : List Joint.Op :=
      [.start, .connect 0 true, .connect 1 true, .spawn 5 true [(0, 7)], .spawn 6 true [(1, 1)],
       .frame true 10 (fun _ => []), .disconnect 0, .connect 0 true, .despawn 6, .spawn 7 true [],
       .vis 0 7 false]
    Joint.Legal2 { srv := s0 } (ops ++ [.frame true 10 (fun _ => [])]) ∧
    (Joint.run { srv := s0 } ops).1.srv.running = true ∧
    (preRun (Joint.run { srv := s0 } ops).1.srv true 10).tickChanged = true ∧
    (Joint.replay ((Joint.runLog { srv := s0 } (fun _ => []) (ops ++ [.frame true 10 (fun _ => [])])).2 0)).s2c = [(5, 0)] ∧
    ((Joint.replay ((Joint.runLog { srv := s0 } (fun _ => []) (ops ++ [.frame true 10 (fun _ => [])])).2 1)).s2c.map (·.1)) = [7, 5] := by
  decide +kernel

/-- Non-vacuity of the receiver's hypotheses: a fresh client is well-formed and holds nothing,
which is what the server tracks for a newly authorized client. -/
example : WF ({} : Client) ∧ ∀ se, ¬ held ({} : Client) se :=
  ⟨Joint.wf_fresh, Joint.held_fresh⟩

/-- Non-vacuity: a legal history with two clients (blacklist policy): entity 5 is hidden from
client 0 and later shown again, entity 6 is despawned; the hypotheses of the two theorems hold
for the next frame, and the tracked sets are what the statement says. -/
example :
    let s0 : Server := { rates := [(0, .every), (1, .every)] }
    let ops : List Joint.Op :=
      [.start, .connect 0 true, .connect 1 true, .spawn 5 true [(0, 7)], .spawn 6 true [(1, 1)],
       .frame true 10 (fun _ => []), .vis 0 5 false, .frame true 10 (fun _ => []), .despawn 6, .vis 0 5 true]
    Joint.Legal { srv := s0 } ops ∧ Joint.Legal' { srv := s0 } ops ∧ (Joint.run { srv := s0 } ops).1.srv.running = true ∧
    (preRun (Joint.run { srv := s0 } ops).1.srv true 10).tickChanged = true ∧
    ((Joint.run { srv := s0 } ops).1.srv.clients.map fun x => (x.1, keys x.2)) = [(0, [6]), (1, [5, 6])] ∧
    ((Joint.frame (Joint.run { srv := s0 } ops).1 true 10 (fun _ => [])).1.srv.clients.map fun x => (x.1, keys x.2))
      = [(0, [5]), (1, [5])] := by
  decide +kernel

/-- **Entities and component kinds over ALL histories in which the tick also advances by more than
one** (`Proofs/Jump.lean`; `ServerTick::increment_by` under the manual tick policy, the trace
checker's `sframe tick=K`).  After any history of ordinary operations and jumps of the tick by any
amounts (entity identifiers not reused, a stopped server sees a frame before a restart, no pre-spawn
mappings), whatever frame comes next: if `send_replication` runs in it then for every authorized
client the client model fed the session's update messages in order is well-formed and holds
exactly the marked entities visible to the client (`C03_history_session` with jumps), and the
records of those messages replay to exactly the replicated component kinds the server entity
carries, as do the component kinds on the client model's entity (`C03_history_components`, both
sides of the wire, with jumps).  None of the invariants
behind the structure theorems reads the value of the tick. -/
theorem C03_history_with_tick_jumps (s0 : Server) (hw : s0.world = []) (hc0 : s0.clients = [])
    (hb : s0.removalBuf = []) (ht : s0.lastRun < s0.now) (ops : List Joint.OpJ)
    (hl : Joint.LegalJ { srv := s0 } ops) (ticked : Bool) (ms : Nat) (parts : Nat → List (List Nat))
    (hr : (Joint.runLogJ { srv := s0 } (fun _ => []) ops).1.srv.running = true)
    (hc : (preRun (Joint.runLogJ { srv := s0 } (fun _ => []) ops).1.srv ticked ms).tickChanged = true) :
    ∀ x ∈ (Joint.step (Joint.runLogJ { srv := s0 } (fun _ => []) ops).1 (.frame ticked ms parts)).1.srv.clients,
      x.2.authorized = true →
      (WF (Joint.replay (Joint.logStep (Joint.runLogJ { srv := s0 } (fun _ => []) ops).1
            (Joint.runLogJ { srv := s0 } (fun _ => []) ops).2 (.frame ticked ms parts) x.1)) ∧
       ∀ se, held (Joint.replay (Joint.logStep (Joint.runLogJ { srv := s0 } (fun _ => []) ops).1
            (Joint.runLogJ { srv := s0 } (fun _ => []) ops).2 (.frame ticked ms parts) x.1)) se ↔
         marked (Joint.step (Joint.runLogJ { srv := s0 } (fun _ => []) ops).1 (.frame ticked ms parts)).1.srv.world se ∧
         Vis.isVisible (Joint.step (Joint.runLogJ { srv := s0 } (fun _ => []) ops).1 (.frame ticked ms parts)).1.srv.white
           (cell x.2 se) = true) ∧
      (∀ e, e ∈ keys x.2 → ∀ ent,
        (e, ent) ∈ (Joint.step (Joint.runLogJ { srv := s0 } (fun _ => []) ops).1 (.frame ticked ms parts)).1.srv.world →
        ∀ k, k ∈ ghostKinds (Joint.logStep (Joint.runLogJ { srv := s0 } (fun _ => []) ops).1
            (Joint.runLogJ { srv := s0 } (fun _ => []) ops).2 (.frame ticked ms parts) x.1) e ↔
          k ∈ presentKinds (Joint.step (Joint.runLogJ { srv := s0 } (fun _ => []) ops).1 (.frame ticked ms parts)).1.srv ent) ∧
      (∀ e, e ∈ keys x.2 → ∀ ent,
        (e, ent) ∈ (Joint.step (Joint.runLogJ { srv := s0 } (fun _ => []) ops).1 (.frame ticked ms parts)).1.srv.world →
        ∀ k, k ∈ kindsOn (Joint.replay (Joint.logStep (Joint.runLogJ { srv := s0 } (fun _ => []) ops).1
            (Joint.runLogJ { srv := s0 } (fun _ => []) ops).2 (.frame ticked ms parts) x.1)) e ↔
          k ∈ presentKinds (Joint.step (Joint.runLogJ { srv := s0 } (fun _ => []) ops).1 (.frame ticked ms parts)).1.srv ent) :=
  Joint.session_with_jumps s0 hw hc0 hb ht ops hl ticked ms parts hr hc

/-- Non-vacuity of `C03_history_with_tick_jumps`: a history with jumps of 127 and 4294967290 ticks
(the update message of the last frame carries tick 4294967420, beyond the 32-bit range: the model's
ticks are unbounded), a removal and a hidden entity; the hypotheses hold, the replayed client holds
entity 5 only and its replayed kinds are [1]. -/
example :
    let s0 : Server := { rates := [(0, .every), (1, .every)] }
    let ops : List Joint.OpJ :=
      [.op .start, .op (.connect 0 true), .op (.spawn 5 true [(0, 7), (1, 2)]), .op (.spawn 6 true [(1, 1)]),
       .op (.frame true 10 (fun _ => [])), .jump 127, .op (.remove 5 0), .op (.frame true 10 (fun _ => [])),
       .jump 4294967290, .op (.vis 0 6 false)]
    Joint.LegalJ { srv := s0 } ops ∧
    (Joint.runLogJ { srv := s0 } (fun _ => []) ops).1.srv.running = true ∧
    (preRun (Joint.runLogJ { srv := s0 } (fun _ => []) ops).1.srv true 10).tickChanged = true ∧
    s0.lastRun < s0.now ∧
    (Joint.step (Joint.runLogJ { srv := s0 } (fun _ => []) ops).1 (.frame true 10 (fun _ => []))).1.srv.tick = 4294967420 ∧
    (Joint.replay (Joint.logStep (Joint.runLogJ { srv := s0 } (fun _ => []) ops).1
        (Joint.runLogJ { srv := s0 } (fun _ => []) ops).2 (.frame true 10 (fun _ => [])) 0)).s2c.map (·.1) = [5] ∧
    ghostKinds (Joint.logStep (Joint.runLogJ { srv := s0 } (fun _ => []) ops).1
        (Joint.runLogJ { srv := s0 } (fun _ => []) ops).2 (.frame true 10 (fun _ => [])) 0) 5 = [1] ∧
    kindsOn (Joint.replay (Joint.logStep (Joint.runLogJ { srv := s0 } (fun _ => []) ops).1
        (Joint.runLogJ { srv := s0 } (fun _ => []) ops).2 (.frame true 10 (fun _ => [])) 0)) 5 = [1] := by
  decide +kernel

end Replicon.C03
