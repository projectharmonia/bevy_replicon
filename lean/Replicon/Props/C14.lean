import Replicon.Proofs.ProtocolHash
/-
C14 — The protocol hash separates compatible from incompatible builds.

Model: `Model/ProtocolHash.lean` (FNV-1a with the constants of the `fnv` crate the repository is
locked to; the byte string fed per registration; `check_protocol`).

What can and cannot be proved: "sequences that differ hash differently" cannot hold for *all*
pairs of sequences for any 64-bit hash (pigeonhole).  The provable core is
 (a) the hash is a function of the registration sequence only (`C14_deterministic`),
 (b) the hasher's input is an injective code of the sequence — order, kind, type, priority and
     independence marks are all in it (`C14_input_injective`),
 (c) FNV-1a separates inputs that differ in one byte (`C14_single_byte`), which covers a change of
     kind and a change of priority within one byte (`C14_kind_change`, `C14_priority_change`).
For the remaining edits (swap, insert, delete, change of type) (b) shows the inputs differ and the
absence of an FNV collision on the pair at hand is *computed* by the driver on every generated
pair (a test, labelled as such in the evidence).
-/
namespace Replicon.C14
open Replicon Replicon.Proto

/-- (a) Same registrations, same hash — nothing else enters the computation. -/
theorem C14_deterministic (rs rs' : List Reg) (h : rs = rs') : protocolHash rs = protocolHash rs' := by
  rw [h]

/-- (b) The bytes fed to the hasher determine the registration sequence. -/
theorem C14_input_injective (rs rs' : List Reg) (hw : ∀ r ∈ rs, r.WF) (hw' : ∀ r ∈ rs', r.WF)
    (h : encodeSeq rs = encodeSeq rs') : rs = rs' := by
  -- the parser reads the first registration off either side
  have head : ∀ (r : Reg) (rs : List Reg), (∀ x ∈ r :: rs, x.WF) →
      decodeReg (encodeSeq (r :: rs)) = some (r, encodeSeq rs) := fun r rs hw =>
    encodeSeq_cons r rs ▸ decodeReg_encode r (encodeSeq rs) (hw r List.mem_cons_self)
  induction rs generalizing rs' with
  | nil =>
    cases rs' with
    | nil => rfl
    | cons r' rs'' => cases h
  | cons r rs ih =>
    cases rs' with
    | nil => cases h
    | cons r' rs'' =>
      obtain ⟨hr, ht⟩ := Prod.mk.inj (Option.some.inj ((head r rs hw).symm.trans (h ▸ head r' rs'' hw')))
      rw [hr, ih rs'' (fun x hx => hw x (List.mem_cons_of_mem _ hx))
        (fun x hx => hw' x (List.mem_cons_of_mem _ hx)) ht]

/-- Each FNV-1a step is injective in the running hash (the prime is odd, hence invertible modulo
2^64). -/
theorem C14_fnv_step_injective (h h' : BitVec 64) (b : Nat) (e : fnvStep h b = fnvStep h' b) : h = h' :=
  fnvStep_inj h h' b e

/-- (c) FNV-1a separates inputs differing in exactly one byte. -/
theorem C14_single_byte (pre suf : List Nat) (b b' : Nat) (h : BitVec 64) (hne : b % 256 ≠ b' % 256) :
    fnv (pre ++ b :: suf) h ≠ fnv (pre ++ b' :: suf) h :=
  fnv_single_byte pre suf b b' h hne

/-- Changing the kind of one registration (event ↔ trigger, client ↔ server, bundle ↔ event …)
changes the hash. -/
theorem C14_kind_change (pre suf : List Reg) (k k' : Nat) (name : List Nat)
    (hk : k ≠ 0) (hk' : k' ≠ 0) (hlt : k < 256) (hlt' : k' < 256) (hne : k ≠ k') :
    protocolHash (pre ++ { kind := k, priority := 0, name := name } :: suf) ≠
    protocolHash (pre ++ { kind := k', priority := 0, name := name } :: suf) := by
  refine protocolHash_single_byte _ _ (encodeSeq pre) (name ++ 255 :: encodeSeq suf) k k' ?_ ?_ ?_
  · rw [encodeSeq_append, encodeSeq_cons, encodeReg_other _ _ _ hk, List.cons_append, List.append_assoc]
    rfl
  · rw [encodeSeq_append, encodeSeq_cons, encodeReg_other _ _ _ hk', List.cons_append, List.append_assoc]
    rfl
  · rw [Nat.mod_eq_of_lt hlt, Nat.mod_eq_of_lt hlt']
    exact hne

/-- Changing the priority of a rule within its low byte changes the hash. -/
theorem C14_priority_change (pre suf : List Reg) (p p' : Nat) (name : List Nat)
    (hhi : p / 256 = p' / 256) (hne : p ≠ p') :
    protocolHash (pre ++ { kind := 0, priority := p, name := name } :: suf) ≠
    protocolHash (pre ++ { kind := 0, priority := p', name := name } :: suf) := by
  -- the two inputs are `encodeSeq pre ++ [0]`, the low byte, and a common tail
  refine protocolHash_single_byte _ _ (encodeSeq pre ++ [0])
    (leBytes 7 (p' / 256) ++ name ++ [255] ++ encodeSeq suf) (p % 256) (p' % 256) ?_ ?_ (by omega)
  · rw [encodeSeq_append, encodeSeq_cons, encodeReg_replicate, hhi, List.append_assoc [0],
      ← List.append_assoc, List.cons_append]
  · rw [encodeSeq_append, encodeSeq_cons, encodeReg_replicate, List.append_assoc [0],
      ← List.append_assoc, List.cons_append]

/-- Under the default authorization method a client is authorized exactly when the hashes
match; otherwise it is notified of the mismatch and a disconnect is requested. -/
theorem C14_handshake (server client : Nat) :
    ((checkProtocol server client).authorized = true ↔ client = server) ∧
    (client ≠ server → (checkProtocol server client).mismatchSent = true ∧
      (checkProtocol server client).disconnectRequested = true ∧
      (checkProtocol server client).authorized = false) ∧
    (client = server → (checkProtocol server client).mismatchSent = false ∧
      (checkProtocol server client).disconnectRequested = false) := by
  unfold checkProtocol
  by_cases h : client = server
  · simp [h]
  · simp [h]

/-- Non-vacuity: the empty sequence hashes to the FNV offset basis; a concrete registration is
well-formed. -/
example : protocolHash [] = 14695981039346656037 := by decide
example : ({ kind := 2, priority := 0, name := [65, 66] } : Reg).WF := by
  unfold Reg.WF
  decide

end Replicon.C14
