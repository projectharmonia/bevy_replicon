import Replicon.Proofs.Client
import Replicon.Proofs.Joint
/-
C04 — Server events never outrun the replication they depend on.

Model: `Model/Events.lean` — `sendEvent` (`BufferedServerEvents::send_all` +
`SerializedMessage::get_bytes`: the stamp is the receiving client's `ClientTicks::update_tick`),
`SrvEv.frame` (the chained `send_or_buffer`, `send_buffered`, `resend_locally`, which run after
`send_replication`), `receive` (`ServerEvent::receive_typed` + `ClientEventQueue`), `resolveRefs`
(`ServerEvent::deserialize` with `ClientReceiveCtx`); `Model/Server.lean` (`runClient` sets the
update tick exactly when an update message goes out) and `Model/Client.lean` (`applyUpdate` sets
`ServerUpdateTick` to the message's tick).

What is proved:
* for ALL histories of server operations and frames (`Model/Joint.lean`: world changes,
  visibility, mappings, connects, authorizations, disconnects, stops and starts, acknowledgements,
  event emissions, frames with or without a tick; any number of clients): every dependent event
  leaves the server stamped with the tick of the last update message sent to the receiving
  client in its session, and those ticks strictly increase (`C04_history`, by an inductive
  invariant over the operation list);
* the client gate and, for any strictly increasing positive tick sequence, that passing the gate
  means every update message sent before the event has been applied
  (`C04_gate`, `C04_ticks_compose`, `C04_applied_before_delivery`);
* reference resolution.
What remains an assumption: the ordered reliable channel hands the client the update messages
in sending order (so what it has applied is a prefix), and `NoTickZeroUpdate` — no update
message carries tick 0, the client's initial `ServerUpdateTick` (known finding F20: with a
replication run at tick 0 the statement is false; the implementation replays it).  These two
are what `C04_end_to_end_partial` lacks for the unconditional statement.  The oracle on the
implementation checks the same two facts on real traces: the stamp on the wire equals the tick of
the last update message sent to that client, and at delivery the client has received at least as
many update messages as had been sent before the event.
Ticks are natural numbers here: the wrap-around of `RepliconTick` inside the queue's `BTreeMap`
is not modelled (a session would have to last 2^31 ticks).
-/
namespace Replicon.C04
open Replicon Replicon.Evt

/-- Server link: a dependent event goes out stamped with the receiving client's update tick,
as it is when the flush runs (after the replication of the same tick). -/
theorem C04_stamp (peers : List Peer) (excl : List Nat) (e : Ev) (o : Out) (h : o ∈ sendEvent peers excl e) :
    ∃ p ∈ peers, p.id = o.client ∧ p.authorized = true ∧ o.stamp = some p.updateTick := by
  obtain ⟨p, hp, _, _, ha, rfl⟩ := mem_sendEvent.mp h
  exact ⟨p, hp, rfl, ha, rfl⟩

/-- … and that update tick is the tick of the last non-empty update message sent to the client:
`send_replication` moves it exactly when it sends one. -/
theorem C04_update_tick_moves (s : Srv.Server) (thisRun : Nat) (cl : Srv.Cli) :
    (∀ u, (Srv.runClient s thisRun cl).2.update = some u →
        u.tick = s.tick ∧ (Srv.runClient s thisRun cl).1.updateTick = s.tick) ∧
    ((Srv.runClient s thisRun cl).2.update = none →
        (Srv.runClient s thisRun cl).1.updateTick = cl.updateTick) := by
  rw [Srv.runClient_update_eq, Srv.runClient_updateTick]
  cases (Srv.runUpdate s thisRun cl).isEmpty
  · exact ⟨fun u hu => by cases hu; exact ⟨rfl, rfl⟩, fun hn => nomatch hn⟩
  · exact ⟨fun u hu => (nomatch hu), fun _ => rfl⟩

/-- Client link: an event is handed to the game logic only when its stamp is not ahead of
`ServerUpdateTick`; otherwise it waits in the queue (and is not lost: `C05_client_exactly_once`). -/
theorem C04_gate (u : Nat) (q : Queue) (inc : List (Nat × Nat)) :
    (∀ x ∈ (receive u q inc).1, x.1 ≤ u) ∧ (∀ x ∈ (receive u q inc).2.items, u < x.1) := by
  unfold receive
  refine ⟨fun x hx => ?_, fun x hx => ?_⟩
  · simp only [List.mem_append, List.mem_filter, decide_eq_true_eq] at hx
    exact hx.elim (·.2) (·.2)
  · -- what is queued is what waited before or arrived now, ahead of the update tick
    have := (foldl_insert_perm _ _).subset hx
    simp only [List.mem_append, List.mem_filter, Bool.not_eq_true', decide_eq_false_iff_not] at this
    exact Nat.lt_of_not_le (this.elim (·.2) (·.2))

/-- the update tick after applying `l`: the start value, or the tick of one of them (cf. `lastOr0_mem`) -/
theorem foldl_update_tick_mem (l : List Srv.Update) (c : Cli.Client) :
    (l.foldl Cli.applyUpdate c).updateTick = c.updateTick ∨
      ∃ v ∈ l, (l.foldl Cli.applyUpdate c).updateTick = v.tick := by
  induction l generalizing c with
  | nil => exact .inl rfl
  | cons u us ih =>
    rcases ih (Cli.applyUpdate c u) with h | ⟨v, hv, h⟩
    · exact .inr ⟨u, List.mem_cons_self, h.trans (Cli.applyUpdate_tick c u)⟩
    · exact .inr ⟨v, List.mem_cons_of_mem _ hv, h⟩

/-- In a sequence with strictly increasing ticks split as `a ++ b`, all above `t0`: a tick that is `t0`
or that of a member of `a` is below every tick of `b`.  (What has been applied is older than what has
not.) -/
theorem lt_of_prefix {α : Type} (f : α → Nat) (a b : List α) (t0 t : Nat)
    (hinc : (a ++ b).Pairwise fun x y => f x < f y) (h0 : ∀ y ∈ b, t0 < f y)
    (ht : t = t0 ∨ ∃ v ∈ a, t = f v) : ∀ y ∈ b, t < f y := by
  intro y hy
  rcases ht with rfl | ⟨v, hv, rfl⟩
  · exact h0 y hy
  · exact (List.pairwise_append.mp hinc).2.2 v hv y hy

/-- Composition for one client.  `us` are the update messages the server has sent to it, in
order (ticks strictly increasing, all after what the client started from); the client has applied
the first `k` of them (the channel is ordered and reliable).  If an event stamped `stamp` passes
the gate, every update message with a tick up to `stamp` — that is, every spawn, insertion,
removal and despawn replicated up to the tick the event was flushed in — has been applied. -/
theorem C04_applied_before_delivery (us : List Srv.Update) (c0 : Cli.Client) (k stamp : Nat)
    (hinc : us.Pairwise fun a b => a.tick < b.tick) (h0 : ∀ u ∈ us, c0.updateTick < u.tick)
    (hgate : stamp ≤ ((us.take k).foldl Cli.applyUpdate c0).updateTick) :
    ∀ u ∈ us, u.tick ≤ stamp → u ∈ us.take k := by
  intro u hu hle
  rw [← List.take_append_drop k us] at hu hinc
  refine (List.mem_append.mp hu).resolve_right fun hd => ?_
  -- `u` is among the messages not applied yet: the client's update tick is below `u.tick`
  have := lt_of_prefix (·.tick) _ _ c0.updateTick _ hinc
    (fun y hy => h0 y ((List.drop_sublist k us).subset hy)) (foldl_update_tick_mem (us.take k) c0) u hd
  omega

/-- References: an event is delivered with every reference replaced by the client's own entity
for it, or — if one does not resolve — not delivered. -/
theorem C04_refs_resolve (map : List (Nat × Nat)) (refs out : List Nat) (h : resolveRefs map refs = some out) :
    out.length = refs.length ∧
      ∀ i (hi : i < refs.length) (ho : i < out.length), map.lookup refs[i] = some out[i] := by
  induction refs generalizing out with
  | nil =>
    cases h
    exact ⟨rfl, fun _ hi => nomatch hi⟩
  | cons r rs ih =>
    rw [resolveRefs_cons] at h
    obtain ⟨v, hv, h⟩ := Option.bind_eq_some_iff.mp h
    obtain ⟨vs, hvs, rfl⟩ := Option.map_eq_some_iff.mp h
    obtain ⟨hl, hall⟩ := ih vs hvs
    refine ⟨congrArg (· + 1) hl, fun i hi ho => ?_⟩
    cases i with
    | zero => exact hv
    | succ i => exact hall i (Nat.lt_of_succ_lt_succ hi) (Nat.lt_of_succ_lt_succ ho)

theorem C04_refs_refused (map : List (Nat × Nat)) (refs : List Nat) (r : Nat) (hr : r ∈ refs)
    (h : map.lookup r = none) : resolveRefs map refs = none := by
  induction refs with
  | nil => cases hr
  | cons x xs ih =>
    rw [resolveRefs_cons]
    rcases List.mem_cons.mp hr with rfl | hr
    · rw [h]
      rfl
    · rw [ih hr]
      cases map.lookup x <;> rfl

open Replicon.Joint in
/-- For every history of operations from the initial state, every frame's dependent events are
stamped with the tick of the last update message sent to the receiving client in its session
(`Joint.StampsOk`), in a state where those ticks strictly increase, never exceed the server
tick, and equal every connected client's `update_tick` (`Joint.Inv`). -/
theorem C04_history (ops : List Joint.Op) :
    Joint.Inv (Joint.run {} ops).1 ∧
    ∀ fr ∈ (Joint.run {} ops).2, ∃ st', Joint.Inv st' ∧ Joint.StampsOk st' fr.2 :=
  Joint.inv_run ops {} Joint.inv_init

/-- Client side, on ticks: `l` are the ticks of the update messages sent to the client in its
session (strictly increasing, none 0); the event was stamped when `j` of them had been sent, the
client has applied `k` of them.  If the stamp passes the gate, `j ≤ k`: everything sent before
the event has been applied. -/
theorem C04_ticks_compose (l : List Nat) (hinc : l.Pairwise (· < ·)) (hpos : ∀ t ∈ l, 0 < t)
    (j k : Nat) (hj : j ≤ l.length)
    (hgate : Joint.lastOr0 (l.take j) ≤ Joint.lastOr0 (l.take k)) : j ≤ k := by
  refine Nat.le_of_not_lt fun hkj => ?_
  -- the ticks sent before the event: those the client has applied, then at least one more
  have hsplit : l.take j = l.take k ++ (l.drop k).take (j - k) := by
    rw [← List.take_add, Nat.add_sub_cancel' (Nat.le_of_lt hkj)]
  have hne : (l.drop k).take (j - k) ≠ [] := by
    intro h
    have := congrArg List.length h
    simp only [List.length_take, List.length_drop, List.length_nil] at this
    omega
  have hinc' : (l.take j).Pairwise (· < ·) := hinc.sublist (List.take_sublist _ _)
  rw [hsplit] at hgate hinc'
  have hy := Joint.lastOr0_append_mem (l.take k) _ hne
  have := lt_of_prefix id _ _ 0 _ hinc' (fun y hy => hpos y (List.mem_of_mem_drop (List.mem_of_mem_take hy)))
    ((Joint.lastOr0_mem (l.take k)).imp_right fun h => ⟨_, h, rfl⟩) _ hy
  exact Nat.not_le_of_lt this hgate

/-- Non-vacuity: a history with two clients — a spawn, a tick with an event, a late joiner, a
second tick — run on the joint model: the late joiner gets only the second event, stamped with
the tick of its own first update message (2); for client 0 the second tick brought only a
mutation (no update message), so its second event still carries stamp 1. -/
example :
    let ops : List Joint.Op :=
      [.start, .connect 0 true, .spawn 5 true [(0, 7)],
       .emit { ev := { id := 100, chan := 2, mode := .broadcast }, independent := false },
       .frame true 10 (fun _ => []),
       .connect 1 true, .insert 5 0 8,
       .emit { ev := { id := 101, chan := 2, mode := .broadcast }, independent := false },
       .frame true 10 (fun _ => [])]
    ((Joint.run { srv := { rates := [(0, .every)] } } ops).2.map fun fr => fr.2.map fun o => (o.client, o.id, o.stamp)) =
      [[], [], [], [], [(0, 100, some 1)], [], [], [], [(1, 101, some 2), (0, 101, some 1)]] := by
  decide

/-- The part of the end-to-end statement that is a theorem for single steps: the conjunction of
the links (`C04_history` lifts the server link to all histories).  Missing for the unconditional
statement: the transport's in-order delivery and `NoTickZeroUpdate` (F20). -/
theorem C04_end_to_end_partial :
    (∀ peers excl e o, o ∈ sendEvent peers excl e → ∃ p ∈ peers, p.id = o.client ∧ o.stamp = some p.updateTick) ∧
    (∀ u q inc, ∀ x ∈ (receive u q inc).1, x.1 ≤ u) :=
  ⟨fun peers excl e o h => by
      obtain ⟨p, hp, hid, _, hs⟩ := C04_stamp peers excl e o h
      exact ⟨p, hp, hid, hs⟩,
   fun u q inc => (C04_gate u q inc).1⟩

/-- Non-vacuity: two clients with different update ticks get different stamps; an event that
overtook two update messages waits until the client reaches its stamp. -/
example :
    sendEvent [{ id := 0, authorized := true, updateTick := 4 }, { id := 1, authorized := true, updateTick := 7 }] []
      { id := 9, chan := 2, mode := .broadcast } =
      [{ client := 0, chan := 2, stamp := some 4, id := 9 }, { client := 1, chan := 2, stamp := some 7, id := 9 }] := by
  decide

example :
    let r1 := receive 2 {} [(4, 9), (4, 10)]
    let r2 := receive 3 r1.2 []
    let r3 := receive 4 r2.2 [(4, 11)]
    r1.1 = [] ∧ r2.1 = [] ∧ r3.1 = [(4, 9), (4, 10), (4, 11)] ∧ r3.2.items = [] := by
  decide

open Replicon.Joint in
/-- `C04_history` for histories in which the tick also advances by more than one at once
(`Joint.OpJ`, `Proofs/Joint.lean`: `ServerTick::increment_by` under the manual tick policy): every
frame's dependent events are stamped with the tick of the last update message sent to the
receiving client in its session, in a state where those ticks strictly increase and never exceed
the server tick. -/
theorem C04_history_with_tick_jumps (ops : List Joint.OpJ) :
    Joint.Inv (Joint.runJ {} ops).1 ∧
    ∀ fr ∈ (Joint.runJ {} ops).2, ∃ st', Joint.Inv st' ∧ Joint.StampsOk st' fr.2 :=
  Joint.inv_runJ ops {} Joint.inv_init

/-- Non-vacuity: after a jump of 127 ticks the next update message carries tick 129, and so does
the stamp of the event emitted with it. -/
example :
    let ops : List Joint.OpJ :=
      [.op .start, .op (.connect 0 true), .op (.spawn 5 true [(0, 7)]),
       .op (.emit { ev := { id := 100, chan := 2, mode := .broadcast }, independent := false }),
       .op (.frame true 10 (fun _ => [])), .jump 127, .op (.spawn 6 true [(0, 1)]),
       .op (.emit { ev := { id := 101, chan := 2, mode := .broadcast }, independent := false }),
       .op (.frame true 10 (fun _ => []))]
    ((Joint.runJ { srv := { rates := [(0, .every)] } } ops).2.map fun fr => fr.2.map fun o => (o.client, o.id, o.stamp)) =
      [[], [], [], [], [(0, 100, some 1)], [], [], [], [(0, 101, some 129)]] := by
  decide

end Replicon.C04
