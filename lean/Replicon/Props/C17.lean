import Replicon.Proofs.Backend
/-
C17 — The example transport preserves per-channel order and delivers exactly once.

Model: `Model/Backend.lean` (`LinkConditioner` without a `ConditionerConfig`, `TimedMessage::cmp`
as scraped from the source, the 3-byte tcp framing).  `std::collections::BinaryHeap` is not
modelled: the model's `pop` returns the first `cmp`-greatest element of the queue (`best`), and
`C17_pop_forced` shows that with the sequence tie-break the oldest message is the only greatest one.
That every correct priority queue therefore behaves like `best` is an informal step; the theorems
are about `best`.  TCP segmentation / `WouldBlock` in the middle of `read_exact` are runtime
behaviour outside the model (receiver passes see whole frames).
-/
namespace Replicon.C17
open Replicon Replicon.Backend

/-- Among queued messages an earlier-inserted one strictly beats every later one under
`TimedMessage::cmp`: the heap has no freedom in what it pops next. -/
theorem C17_pop_forced (x y : TimedMsg) (h : Before x y) : tmCmp y x = .lt := tmCmp_of_before x y h

/-- However many messages pile up between two receiver passes, on however many channels:
everything handed to the backend comes out exactly once and in sending order (hence in sending
order on every channel), for any number of passes.  (The model stamps a message with the time of
the pass that reads it, so every pass releases all it reads and the premise on the times is not
used.) -/
theorem C17_exactly_once_in_order (passes : List (Nat × List (Nat × List Nat)))
    (o : List (Nat × List Nat)) (ht : TimesOk 0 passes)
    (h : runLink {} passes = some o) :
    o = (passes.map (·.2)).flatten :=
  have _ := ht  -- not needed: a pass releases everything it reads, whatever its time
  runLink_fifo passes {} o rfl h

/-- Per-channel corollary: the messages received on channel `ch` are exactly those sent on
`ch`, in order. -/
theorem C17_per_channel (passes : List (Nat × List (Nat × List Nat)))
    (o : List (Nat × List Nat)) (ht : TimesOk 0 passes) (h : runLink {} passes = some o) (ch : Nat) :
    o.filter (·.1 = ch) = ((passes.map (·.2)).flatten).filter (·.1 = ch) := by
  rw [C17_exactly_once_in_order passes o ht h]

/-- The framing hands every payload to the receiver unchanged, on the channel it was sent on,
and leaves the rest of the stream untouched. -/
theorem C17_frame_roundtrip (ch : Nat) (m rest f : List Nat) (h : frame ch m = some f) :
    readMessage (f ++ rest) = some ((ch, m), rest) :=
  readMessage_frame ch m rest f h

/-- Every message of ordinary size on a valid channel can be framed. -/
theorem C17_frame_defined (ch : Nat) (m : List Nat) (hc : ch < 256) (hm : m.length < 65536) :
    ∃ f, frame ch m = some f := by
  unfold frame; rw [if_pos ⟨hc, hm⟩]; exact ⟨_, rfl⟩

/-- A stream of frames parses back into exactly the messages that were framed. -/
theorem C17_frame_stream (msgs : List (Nat × List Nat)) (buf : List Nat) (h : frameAll msgs = some buf) :
    readAll buf.length buf = msgs :=
  readAll_stream msgs buf h

/-- Non-vacuity: four messages on two channels queued before one pass, two more before the next. -/
example : runLink {} [(5, [(0, [1]), (1, [2]), (0, [3]), (0, [4])]), (5, []), (9, [(1, [5]), (0, [6])])]
    = some [(0, [1]), (1, [2]), (0, [3]), (0, [4]), (1, [5]), (0, [6])] := by decide
example : TimesOk 0 [(5, [(0, [1])]), (5, []), (9, [])] := by simp [TimesOk]

end Replicon.C17
