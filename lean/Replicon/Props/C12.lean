import Replicon.Proofs.ConfirmHistory
import Replicon.Proofs.MutateTicks
import Replicon.Proofs.Client
/-
C12 — Tick-confirmation queries agree with what was actually received.

Model: `Model/Tick.lean` (RepliconTick), `Model/ConfirmHistory.lean`, `Model/MutateTicks.lean`;
specification: `Model/HistorySpec.lean` (a plain set of confirmed *absolute* ticks; the
implementation only sees residues modulo 2^32, so wrap-around of the counter is covered by
every statement below).  End to end: `Model/Client.lean` (`apply_mutate_messages`: the tracker
is fed by `trackOne`, once per mutate message that is *applied*, never by one that is only
buffered); the tie is the lock-step comparison of the `MutateTickReceived` events of every
client frame with the model's (`sys`, `sys_split` with tracking on) and the oracle "a reported
tick's every mutate message was applied (acknowledged) by then, and it is reported once".
-/
namespace Replicon.C12
open Replicon

/-- Tick comparison orders any two ticks less than half the counter range apart by their
wrapping distance — including across the 32-bit wrap point. -/
theorem C12_tick_order (a b : Nat) (h : Near a b) :
    tickCmp (a % 4294967296) (b % 4294967296) = compare a b :=
  tickCmp_abs a b h

/-- Run a sequence of confirmations on the implementation model (ticks as the code sees them). -/
def runConfirms : ConfirmHistory → List Nat → Res ConfirmHistory
  | h, [] => .ok h
  | h, t :: ts => (h.confirm (t % 4294967296)).bind fun h' => runConfirms h' ts

/-- The premise under which the tick order is defined: every confirmed tick is less than half
the counter range away from the last tick at that moment. -/
def NearRun : SetSpec → List Nat → Prop
  | _, [] => True
  | sp, t :: ts => Near t sp.last ∧ NearRun (sp.confirm t) ts

/-- For every sequence of confirmations (any length; gaps longer than the window; across the
wrap point) the implementation never panics and its `(mask, last_tick)` represent exactly the
plain set of confirmed ticks. -/
theorem C12_history_refines (h : ConfirmHistory) (sp : SetSpec) (ts : List Nat)
    (inv : CHInv h sp) (hn : NearRun sp ts) :
    ∃ h', runConfirms h ts = .ok h' ∧ CHInv h' (ts.foldl SetSpec.confirm sp) := by
  induction ts generalizing h sp with
  | nil => exact ⟨h, rfl, inv⟩
  | cons t ts ih =>
    obtain ⟨hnear, hrest⟩ := hn
    obtain ⟨h1, e1, inv1⟩ := ch_confirm h sp t inv hnear
    obtain ⟨h2, e2, inv2⟩ := ih h1 (sp.confirm t) inv1 hrest
    refine ⟨h2, ?_, inv2⟩
    show (h.confirm (t % 4294967296)).bind _ = _
    rw [e1]; exact e2

/-- The same, from a fresh history. -/
theorem C12_history_refines_new (t0 : Nat) (ts : List Nat) (hn : NearRun (SetSpec.new t0) ts) :
    ∃ h', runConfirms (ConfirmHistory.new (t0 % 4294967296)) ts = .ok h' ∧
      CHInv h' (ts.foldl SetSpec.confirm (SetSpec.new t0)) :=
  C12_history_refines _ _ ts (ch_new t0) hn

/-- Membership queries answer exactly as the plain set would (older than the window counts
as confirmed). -/
theorem C12_contains (h : ConfirmHistory) (sp : SetSpec) (q : Nat) (inv : CHInv h sp)
    (near : Near q sp.last) : h.contains (q % 4294967296) = sp.contains q :=
  ch_contains h sp q inv near

/-- Range queries never panic (including the range that covers the whole 64-tick window) and
answer exactly as the plain set would: some tick of `[a, b]` is confirmed.
`64 ≤ sp.last` is not used: the same holds while the window still reaches below tick 0
(`ch_contains_any_of_inv`). -/
theorem C12_contains_any (h : ConfirmHistory) (sp : SetSpec) (a b : Nat) (inv : CHInv h sp)
    (hab : a ≤ b) (nab : Near a b) (na : Near a sp.last) (nb : Near b sp.last) (hbase : 64 ≤ sp.last) :
    ∃ v, h.containsAny (a % 4294967296) (b % 4294967296) = .ok v ∧ (v = true ↔ sp.containsAny a b) :=
  ch_contains_any h sp a b inv hab nab na nb hbase

/-- Run a sequence of `confirm(tick, messages_count)` calls; returns the final ring and the
list of return values ("tick completely received"). -/
def runSmt : MutateTicks → List (Nat × Nat) → Res (MutateTicks × List Bool)
  | s, [] => .ok (s, [])
  | s, (t, n) :: cs =>
    (s.confirm (t % 4294967296) n).bind fun r =>
      (runSmt r.1 cs).bind fun r2 => .ok (r2.1, r.2 :: r2.2)

/-- Premise: ticks within half range of the running last tick, and calls that respect the
protocol (non-zero, consistent count; no more confirmations than messages for ticks still in
the window). -/
def GoodCalls : CountSpec → List (Nat × Nat) → Prop
  | _, [] => True
  | sp, (t, n) :: cs => Near t sp.last ∧ CallOk sp t n ∧ GoodCalls (sp.confirm t n) cs

/-- For every sequence of confirmations (any length, gaps beyond the window, across the wrap)
the tracker never panics and its ring represents exactly the confirmation log: slot `i` holds
the announced count and the number of confirmations of tick `last - i`. -/
theorem C12_tracker_refines (s : MutateTicks) (sp : CountSpec) (cs : List (Nat × Nat))
    (inv : SMTInv s sp) (hg : GoodCalls sp cs) :
    ∃ s' rs, runSmt s cs = .ok (s', rs) ∧
      SMTInv s' (cs.foldl (fun sp c => sp.confirm c.1 c.2) sp) := by
  induction cs generalizing s sp with
  | nil => exact ⟨s, [], rfl, inv⟩
  | cons c cs ih =>
    obtain ⟨t, n⟩ := c
    obtain ⟨hnear, hok, hrest⟩ := hg
    obtain ⟨s1, r1, e1, inv1, _⟩ := smt_confirm s sp t n inv hnear hok
    obtain ⟨s2, rs2, e2, inv2⟩ := ih s1 (sp.confirm t n) inv1 hrest
    refine ⟨s2, r1 :: rs2, ?_, inv2⟩
    show (s.confirm (t % 4294967296) n).bind _ = _
    rw [e1]
    show (runSmt s1 cs).bind _ = _
    rw [e2]; rfl

/-- `confirm` reports "fully received" exactly when the tick is still tracked and the number of
confirmations now equals the announced, non-zero message count. -/
theorem C12_tracker_confirm_result (s : MutateTicks) (sp : CountSpec) (t n : Nat)
    (inv : SMTInv s sp) (near : Near t sp.last) (ok : CallOk sp t n) :
    ∃ s' r, s.confirm (t % 4294967296) n = .ok (s', r) ∧ SMTInv s' (sp.confirm t n) ∧
      r = (decide (sp.last < t + 64) && (sp.confirm t n).complete t) :=
  smt_confirm s sp t n inv near ok

theorem C12_tracker_contains (s : MutateTicks) (sp : CountSpec) (q : Nat) (inv : SMTInv s sp)
    (near : Near q sp.last) : s.contains (q % 4294967296) = sp.contains q :=
  smt_contains s sp q inv near

theorem C12_tracker_contains_any (s : MutateTicks) (sp : CountSpec) (a b : Nat) (inv : SMTInv s sp)
    (hab : a ≤ b) (nab : Near a b) (na : Near a sp.last) (nb : Near b sp.last) (hbase : 64 ≤ sp.last) :
    ∃ v, s.containsAny (a % 4294967296) (b % 4294967296) = .ok v ∧ (v = true ↔ sp.containsAny a b) :=
  smt_contains_any s sp a b inv hab nab na nb hbase

theorem C12_tracker_init : SMTInv MutateTicks.default CountSpec.init := by
  refine SMTInv.intro rfl List.length_replicate (fun _ hc => absurd hc List.not_mem_nil) fun i hi => ?_
  show (List.replicate 64 TickMessages.empty)[i]? = _
  rw [List.getElem?_replicate, if_pos hi]
  unfold slotOf
  by_cases h0 : i ≤ CountSpec.init.last
  · rw [if_pos h0]; rfl
  · rw [if_neg h0]

example : GoodCalls CountSpec.init [(5, 2), (5, 2), (70, 1), (6, 3)] := by
  simp [GoodCalls, Near, CallOk, CountSpec.init, CountSpec.confirm, CountSpec.count, CountSpec.received]

/-! Non-vacuity: a concrete history across the wrap point with a gap longer than the window
satisfies the premises, and the witnesses of finding F6 (repaired by a `fix:` commit) evaluate
correctly on the model of the repaired code. -/
example : NearRun (SetSpec.new 4294967290) [4294967291, 4294967296 + 60, 4294967289] := by
  simp [NearRun, Near, SetSpec.new, SetSpec.confirm]
example : (runConfirms (ConfirmHistory.new 1) [2, 66]).map (fun h => (h.mask.toNat, h.last, h.contains 65))
    = .ok (1, 66, false) := by decide
example : (ConfirmHistory.new 100).containsAny 37 100 = .ok true := by decide

open Replicon.Cli in
theorem trackOne_notified (c : Client) (x : Mutate) :
    ∀ t ∈ (trackOne c x).notified, t ∈ c.notified ∨ t = x.tick := by
  intro t h
  unfold trackOne at h
  split at h
  · exact Or.inl h
  · split at h
    · dsimp only at h
      split at h
      · exact (List.mem_append.mp h).imp_right List.mem_singleton.mp
      · exact Or.inl h
    · exact Or.inl h

open Replicon.Cli in
theorem trackFold_notified (l : List Mutate) (c : Client) :
    ∀ t ∈ (l.foldl trackOne c).notified, t ∈ c.notified ∨ ∃ m ∈ l, m.tick = t := by
  induction l generalizing c with
  | nil => exact fun t ht => Or.inl ht
  | cons x xs ih =>
    intro t ht
    rcases ih _ t ht with h | ⟨m, hm, rfl⟩
    · exact (trackOne_notified c x t h).imp_right fun e => ⟨x, List.mem_cons_self, e.symm⟩
    · exact Or.inr ⟨m, List.mem_cons_of_mem _ hm, rfl⟩

/-- A tick is reported as fully received in a frame only if a mutate message of that tick was
*applied* in that frame: messages that are merely buffered (their update message has not been
applied yet) are never counted. -/
theorem C12_reported_only_when_applied (c : Cli.Client) :
    ∀ t ∈ (Cli.applyBuffered c).notified, t ∈ c.notified ∨
      ∃ m ∈ c.buffered, ¬ (m.updateTick > c.updateTick) ∧ m.tick = t := by
  intro t ht
  unfold Cli.applyBuffered at ht
  simp only at ht
  rcases trackFold_notified _ _ t ht with h | ⟨m, hm, rfl⟩
  · left
    rw [(Cli.applyMutates_same _ _).notified] at h
    exact h
  · right
    rw [List.mem_filter] at hm
    exact ⟨m, hm.1, by simpa using hm.2, rfl⟩

/-- … and a frame in which nothing is applicable neither feeds the tracker nor reports anything. -/
theorem C12_buffered_not_counted (c : Cli.Client) (h : ∀ m ∈ c.buffered, m.updateTick > c.updateTick) :
    (Cli.applyBuffered c).mutTicks = c.mutTicks ∧ (Cli.applyBuffered c).notified = c.notified := by
  unfold Cli.applyBuffered
  have hr : (c.buffered.filter fun m => !(m.updateTick > c.updateTick)) = [] := by
    rw [List.filter_eq_nil_iff]
    intro m hm
    simp [h m hm]
  simp only [hr, List.foldl_nil]
  trivial

/-- The report itself is the tracker's verdict (`C12_tracker_confirm_result`: the number of
confirmations equals the announced non-zero count, and the tick is still in the window). -/
theorem C12_report_is_tracker_verdict (c : Cli.Client) (m : Cli.Mutate) (s : MutateTicks) (hs : c.mutTicks = some s) :
    (∀ s' d, s.confirm m.tick m.count = .ok (s', d) →
      (Cli.trackOne c m).mutTicks = some s' ∧
      (Cli.trackOne c m).notified = if d then c.notified ++ [m.tick] else c.notified) := by
  intro s' d h
  unfold Cli.trackOne
  rw [hs]
  simp only [h]
  trivial

/-- Non-vacuity: a tick split into two mutate messages; the first arrives before the update
message it depends on and waits; nothing is reported until both were applied. -/
example :
    let m1 : Cli.Mutate := { updateTick := 3, tick := 4, index := 0, ents := [], count := 2 }
    let m2 : Cli.Mutate := { updateTick := 3, tick := 4, index := 1, ents := [], count := 2 }
    let c0 : Cli.Client := { connected := true, lastNotDisconnected := true, updateTick := 2, mutTicks := some MutateTicks.default }
    let c1 := Cli.frame c0 [] [m1]
    let c2 := Cli.frame c1 [{ tick := 3 }] []
    let c3 := Cli.frame c2 [] [m2]
    (c1.notified, c1.acks, c2.notified, c2.acks, c3.notified, c3.acks) = ([], [], [], [0], [4], [1]) := by
  decide

end Replicon.C12
