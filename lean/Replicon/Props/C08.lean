import Replicon.Proofs.RecordValues
import Replicon.Proofs.Jump
/-
C08 — Hidden entities' data never reaches a client.

Model: `Model/Visibility.lean`, the projection of `ClientVisibility` on one entity (every
operation of the component touches only that entity's list entry and set memberships), for
both policies, with the replication run's decision for the entity (`collect_despawns` /
`collect_changes` by `state()` / `update`).  The ghost is the pair (most recent setting, client
holds the entity).  The per-entity state space is finite (12 cells × 4 ghosts × 4 operations ×
2 policies), so the one-step lemma is decided exhaustively by the kernel (which cell represents
which ghost: `Vis.inv_iff`, all cell–ghost pairs; then every operation on the eight pairs that
do) and lifted to operation sequences of any length by induction.

The proof attempt on the unrepaired model failed on `hide; show; hide` under the whitelist
policy and exposed a genuine defect (F19, repaired by a `fix:` commit).

Not covered here: the marker removal of a live entity is delivered to `ClientVisibility` as a
despawn and wipes the setting (known finding F14); that `collect_changes` sends a *fresh* entity
in full under the blacklist policy is the "marker added" check (protocol model, C03).
-/
namespace Replicon.C08
open Replicon.Vis

/-- For every sequence of set-visibility calls (including repeated and mutually cancelling
calls inside one tick window), replication runs and despawns, under either policy: the cell
keeps representing (most recent setting, client holds the entity), and every replication run
decided for the entity exactly what the property demands. -/
theorem C08_refines (white : Bool) (ops : List Op) :
    Inv white (runCell white {} ops).1 (runGhost white (Ghost.init white) ops) = true ∧
    AllSentOk white (Ghost.init white) ops (runCell white {} ops).2 :=
  run_refines white ops {} (Ghost.init white) (init_inv white)

/-- The visibility query reports the most recent setting. -/
theorem C08_query (white : Bool) (ops : List Op) :
    isVisible white (runCell white {} ops).1 = (runGhost white (Ghost.init white) ops).desired := by
  have h := (C08_refines white ops).1
  exact isVisible_of_inv white _ _ h

/-- One replication run, spelled out: hidden and not held → nothing is sent (no data of a
hidden entity ever leaves); hidden but still held → a despawn; visible and not held → the
whole entity; visible and held → changes only.  Other clients have their own cells. -/
theorem C08_run_decision (white : Bool) (c : Cell) (g : Ghost) (h : Inv white c g = true) :
    (step white c .tick).2 =
      (if g.desired then (if g.held then Sent.changes else Sent.whole)
       else (if g.held then Sent.despawn else Sent.nothing)) := by
  have := (step_preserves white c g .tick h).2
  unfold sentOk at this
  cases hd : g.desired <;> cases hh : g.held <;> simp [hd, hh] at this ⊢ <;> exact this

/-- When the entity is despawned the client is told if (and whenever) it holds it. -/
theorem C08_despawn (white : Bool) (c : Cell) (g : Ghost) (h : Inv white c g = true) (hh : g.held = true) :
    (step white c .despawnTick).2 = Sent.despawn := by
  have := (step_preserves white c g .despawnTick h).2
  unfold sentOk at this
  simp [hh] at this
  exact this

/-- Non-vacuity: the F19 scenario on the repaired model — visible and held, then hide, show,
hide within one window: the next run sends the despawn. -/
example : (runCell true {} [.show_, .tick, .hide, .show_, .hide, .tick]).2
    = [.nothing, .whole, .nothing, .nothing, .nothing, .despawn] := by decide

/-- Known finding F14, machine-checked on the visibility model (replay: `findings/F14.trace`):
blacklist; the entity is hidden and a tick passes; then its replication marker is removed, which
`ClientVisibility` is told as a despawn: the cell is wiped and `is_visible` answers `true` although
the most recent setting of the (live) entity is "hidden". -/
theorem C08_known_finding_F14_witness :
    let c1 := (step false {} .hide).1
    let c2 := (step false c1 .tick).1
    let c3 := (step false c2 .despawnTick).1
    isVisible false c2 = false ∧ isVisible false c3 = true := by
  decide

/-- **Gaining and losing visibility, over ALL histories of the whole server**
(`Proofs/Sync.lean`, joint model, any number of clients): after any history in which entity
identifiers are not reused, in the next frame in which `send_replication` runs, for every
authorized client: an entity the server tracks for it that it must not hold afterwards (hidden
from it, despawned, or without the replication marker) is in the DESPAWNS section of an update
message sent to it in that frame; an entity it does not hold and may see afterwards is in the
CHANGES section of one (whole: `Srv.collect_unknown_whole`).  The statement is per client: other
clients' cells and ticks do not occur in it. -/
theorem C08_history_gain_lose (s0 : Srv.Server) (hw : s0.world = []) (hc0 : s0.clients = []) (ops : List Joint.Op)
    (hl : Joint.Legal { srv := s0 } ops) (ticked : Bool) (ms : Nat) (parts : Nat → List (List Nat))
    (hr : (Joint.run { srv := s0 } ops).1.srv.running = true)
    (hc : (Srv.preRun (Joint.run { srv := s0 } ops).1.srv ticked ms).tickChanged = true)
    (c : Nat) (cl : Srv.Cli) (hm : (c, cl) ∈ (Srv.preRun (Joint.run { srv := s0 } ops).1.srv ticked ms).clients)
    (ha : cl.authorized = true) (e : Nat) :
    (e ∈ Srv.keys cl →
      ¬ (Srv.marked (Srv.preRun (Joint.run { srv := s0 } ops).1.srv ticked ms).world e ∧
         isVisible (Srv.preRun (Joint.run { srv := s0 } ops).1.srv ticked ms).white
          (Srv.cell (Srv.ranClient (Srv.preRun (Joint.run { srv := s0 } ops).1.srv ticked ms) parts (c, cl)).2 e) = true) →
      ∃ o u, (c, o) ∈ (Joint.frame (Joint.run { srv := s0 } ops).1 ticked ms parts).2.1 ∧
        o.update = some u ∧ e ∈ u.despawns) ∧
    (e ∉ Srv.keys cl →
      (Srv.marked (Srv.preRun (Joint.run { srv := s0 } ops).1.srv ticked ms).world e ∧
         isVisible (Srv.preRun (Joint.run { srv := s0 } ops).1.srv ticked ms).white
          (Srv.cell (Srv.ranClient (Srv.preRun (Joint.run { srv := s0 } ops).1.srv ticked ms) parts (c, cl)).2 e) = true) →
      ∃ o u, (c, o) ∈ (Joint.frame (Joint.run { srv := s0 } ops).1 ticked ms parts).2.1 ∧
        o.update = some u ∧ e ∈ u.changes.map (·.ent)) :=
  have inv := Joint.sync_run ops _ (Joint.sync_empty s0 hw hc0) hl
  ⟨Joint.lose_of_sync _ inv ticked ms parts hr hc c cl hm ha e, Joint.gain_of_sync _ inv ticked ms parts hr hc c cl hm ha e⟩

/-- **"Gaining visibility delivers the whole entity" — with its values, over ALL histories, across
both models** (`Proofs/RecordValues.lean`; the statement of `C07_history_complete_state_values`): an
entity the replication run of the next frame starts to track for a client — in particular one that
was hidden from the client and is shown again, which the client had been told to despawn — is in the
update message that run assembles (the frame performs the run if the tick changed and the client is
authorized), and the client model applying it has exactly the server's current value for every plain
replicated component of the entity. -/
theorem C08_history_gained_entity_values (s0 : Srv.Server) (hw : s0.world = []) (hc0 : s0.clients = []) (hb : s0.removalBuf = [])
    (hrates : (s0.rates.map (·.1)).Nodup)
    (ops : List Joint.Op) (hl : Joint.Legal2 { srv := s0 } ops) (ticked : Bool) (ms : Nat)
    (hr : (Joint.run { srv := s0 } ops).1.srv.running = true)
    (z : Nat × Srv.Cli) (hz : z ∈ (Joint.run { srv := s0 } ops).1.srv.clients)
    (e : Nat)
    (hnew : e ∉ Srv.keys (Srv.runCl1 (Srv.preRun (Joint.run { srv := s0 } ops).1.srv ticked ms) (Srv.preG (Joint.run { srv := s0 } ops).1.srv ms z.2)))
    (hbump : e ∈ Srv.runBumped (Srv.preRun (Joint.run { srv := s0 } ops).1.srv ticked ms)
      ((Srv.preRun (Joint.run { srv := s0 } ops).1.srv ticked ms).now + 1) (Srv.preG (Joint.run { srv := s0 } ops).1.srv ms z.2))
    (ent : Srv.SEnt) (hwld : (e, ent) ∈ (Joint.run { srv := s0 } ops).1.srv.world) :
    ∃ u, (Srv.runClient (Srv.preRun (Joint.run { srv := s0 } ops).1.srv ticked ms)
        ((Srv.preRun (Joint.run { srv := s0 } ops).1.srv ticked ms).now + 1) (Srv.preG (Joint.run { srv := s0 } ops).1.srv ms z.2)).2.update = some u ∧
      ∀ k r comp, (k, r, comp) ∈ Srv.present (Joint.run { srv := s0 } ops).1.srv ent →
        (Joint.replay ((Joint.runLog { srv := s0 } (fun _ => []) ops).2 z.1)).entityComps.contains k = false →
        Cli.valOn (Cli.applyUpdate (Joint.replay ((Joint.runLog { srv := s0 } (fun _ => []) ops).2 z.1)) u) e k = some comp.val :=
  Joint.history_new_entity_values s0 hw hc0 hb hrates ops hl ticked ms hr z hz e hnew hbump ent hwld

/-- `C08_history_gain_lose` for histories in which the tick also advances by more than one at once
(`Joint.OpJ`, `Proofs/Jump.lean`; the hypotheses are those of the session theorems: identifiers not
reused, a frame between a stop and a start, no pre-spawn mappings). -/
theorem C08_history_gain_lose_with_tick_jumps (s0 : Srv.Server) (hw : s0.world = []) (hc0 : s0.clients = [])
    (hb : s0.removalBuf = []) (ht : s0.lastRun < s0.now) (ops : List Joint.OpJ)
    (hl : Joint.LegalJ { srv := s0 } ops) (ticked : Bool) (ms : Nat) (parts : Nat → List (List Nat))
    (hr : (Joint.runLogJ { srv := s0 } (fun _ => []) ops).1.srv.running = true)
    (hc : (Srv.preRun (Joint.runLogJ { srv := s0 } (fun _ => []) ops).1.srv ticked ms).tickChanged = true)
    (c : Nat) (cl : Srv.Cli)
    (hm : (c, cl) ∈ (Srv.preRun (Joint.runLogJ { srv := s0 } (fun _ => []) ops).1.srv ticked ms).clients)
    (ha : cl.authorized = true) (e : Nat) :
    (e ∈ Srv.keys cl →
      ¬ (Srv.marked (Srv.preRun (Joint.runLogJ { srv := s0 } (fun _ => []) ops).1.srv ticked ms).world e ∧
         isVisible (Srv.preRun (Joint.runLogJ { srv := s0 } (fun _ => []) ops).1.srv ticked ms).white
          (Srv.cell (Srv.ranClient (Srv.preRun (Joint.runLogJ { srv := s0 } (fun _ => []) ops).1.srv ticked ms) parts (c, cl)).2 e) = true) →
      ∃ o u, (c, o) ∈ (Joint.frame (Joint.runLogJ { srv := s0 } (fun _ => []) ops).1 ticked ms parts).2.1 ∧
        o.update = some u ∧ e ∈ u.despawns) ∧
    (e ∉ Srv.keys cl →
      (Srv.marked (Srv.preRun (Joint.runLogJ { srv := s0 } (fun _ => []) ops).1.srv ticked ms).world e ∧
         isVisible (Srv.preRun (Joint.runLogJ { srv := s0 } (fun _ => []) ops).1.srv ticked ms).white
          (Srv.cell (Srv.ranClient (Srv.preRun (Joint.runLogJ { srv := s0 } (fun _ => []) ops).1.srv ticked ms) parts (c, cl)).2 e) = true) →
      ∃ o u, (c, o) ∈ (Joint.frame (Joint.runLogJ { srv := s0 } (fun _ => []) ops).1 ticked ms parts).2.1 ∧
        o.update = some u ∧ e ∈ u.changes.map (·.ent)) :=
  have inv := (Joint.ksess_runJ ops _ _ (Joint.ksess_empty s0 hw hc0 hb ht) hl).sess.sync
  ⟨Joint.lose_of_sync _ inv ticked ms parts hr hc c cl hm ha e, Joint.gain_of_sync _ inv ticked ms parts hr hc c cl hm ha e⟩

end Replicon.C08
