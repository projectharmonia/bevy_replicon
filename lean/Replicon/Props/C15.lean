import Replicon.Proofs.EntityCodec
/-
C15 — Entity wire encoding is lossless and decoding is total.

Model: `Replicon/Model/EntityCodec.lean` (`serialize_entity`, `deserialize_entity`,
`Entity::try_from_bits`), `Replicon/Model/Varint.lean` (postcard varints).
-/
namespace Replicon.C15
open Replicon

/-- Every valid entity survives encoding and decoding unchanged, and the decoder consumes
exactly the bytes the encoder produced even when they are followed by arbitrary `rest`. -/
theorem C15_roundtrip (idx gen : Nat) (rest : List Nat) (h : ValidEntity idx gen) :
    decodeEntity (encodeEntity idx gen ++ rest) = .ok ((idx, gen), rest) := by
  have hi : idx * 2 + 1 < 18446744073709551616 := by unfold ValidEntity at h; omega
  unfold encodeEntity decodeEntity
  by_cases hg : gen > 1
  · rw [if_pos hg, List.append_assoc, decodeU64_encode _ _ hi]
    show (decodeGeneration (idx * 2 + 1) (encodeU32 (gen - 1) ++ rest)).bind _ = _
    rw [decodeGeneration_flag idx gen rest hg h.gen_lt]
    exact entityFromParts_pack idx gen _ rest (by omega) h
  · obtain rfl : gen = 1 := Nat.le_antisymm (Nat.le_of_not_lt hg) h.gen_pos
    rw [if_neg hg, decodeU64_encode _ _ (Nat.lt_of_succ_lt hi)]
    show (decodeGeneration (idx * 2) rest).bind _ = _
    rw [decodeGeneration_noflag]
    exact entityFromParts_pack idx 1 _ rest (Nat.mul_div_cancel idx (by decide)) h

/-- The encoder only produces bytes. -/
theorem C15_encode_bytes (idx gen : Nat) : BytesOk (encodeEntity idx gen) := by
  unfold encodeEntity
  split
  · intro b hb
    exact (List.mem_append.mp hb).elim (encodeVarintLoop_bytesOk _ _ b) (encodeVarintLoop_bytesOk _ _ b)
  · exact encodeVarintLoop_bytesOk _ _

/-- Decoding arbitrary input (any list, any length) never panics; a successful decode yields
a valid identifier and a remainder that is a proper suffix of the input. -/
theorem C15_total (bs : List Nat) :
    (∀ s, decodeEntity bs ≠ .panic s) ∧
    (∀ idx gen rest, decodeEntity bs = .ok ((idx, gen), rest) →
      ValidEntity idx gen ∧ ∃ pre, pre ≠ [] ∧ bs = pre ++ rest) :=
  ⟨(decodeEntity_safe bs).ne_panic, fun _ _ _ he => (decodeEntity_safe bs).of_eq_ok he⟩

/-- Non-vacuity: concrete valid entities round-trip through concrete bytes (evaluated). -/
example : ValidEntity 7 1 ∧ ValidEntity 4294967295 2147483647 := by
  decide
example : encodeEntity 7 3 = [15, 2] ∧ decodeEntity [15, 2, 99] = .ok ((7, 3), [99]) := by
  decide

/-- Witnesses for the defect repaired by the F10a `fix:` commit: with the pre-fix
`generation + 1` (unchecked) the input `01 ff ff ff ff 0f` overflows and
`01 ff ff ff ff 07` reaches `Entity::from_bits`' panic; the repaired code returns `Err`. -/
example : decodeEntity [1, 0xff, 0xff, 0xff, 0xff, 0x0f] = .err := by decide
example : decodeEntity [1, 0xff, 0xff, 0xff, 0xff, 0x07] = .err := by decide

end Replicon.C15
