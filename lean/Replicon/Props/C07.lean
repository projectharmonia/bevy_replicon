import Replicon.Proofs.RecordValues
import Replicon.Proofs.ProtocolHash
import Replicon.Proofs.Jump
/-
C07 — Unauthorized clients get no replication and only independent events.

Model: `Model/Server.lean`.  `send_replication`'s client query requires `ClientTicks`, which is
a required component of `AuthorizedClient`; the model keeps that as the `authorized` flag and
`Server.runAll` runs `runClient` for authorized clients only.  Events: see C04/C05 (the event
model delivers non-independent events only to clients with `ClientTicks`).
-/
namespace Replicon.C07
open Replicon.Srv

/-- However long it stays connected and whatever happens on the server, a client that is not
authorized is sent no update and no mutate message by a replication run. -/
theorem C07_unauthorized_silent (s : Server) (c : Nat) (cl : Cli)
    (hc : aget s.clients c = some cl) (hu : cl.authorized = false)
    (hnodup : ∀ cl', (c, cl') ∈ s.clients → cl' = cl) :
    ∀ o, (c, o) ∉ s.runAll.2 := by
  intro o hmem
  obtain ⟨cl', hin, ha, _⟩ := (mem_runAll_outs s c o).mp hmem
  rw [hnodup cl' hin] at ha
  rw [hu] at ha
  cases ha

/-- From the run in which it is authorized, the client is sent the complete state visible to
it: every replicated entity that is not hidden, with all its replicated components. -/
theorem C07_full_state_on_authorization (s : Server) (thisRun : Nat) (cl : Cli)
    (hd : s.despawnBuf = []) (hl : NoLost s.white cl) (hk : ∀ e, aget cl.mutTick e = none)
    (e : Nat) (ent : SEnt) (m : Nat) (hw : (e, ent) ∈ s.world) (hm : ent.marker = some m)
    (hv : visState s cl e ≠ .hidden) :
    ∃ u, (runClient s thisRun cl).2.update = some u ∧
      ({ ent := e, comps := (present s ent).map fun x => (x.1, x.2.2.val) } : MsgEnt) ∈ u.changes :=
  runClient_full_state s thisRun cl hd hl hk e ent m hw hm hv

/-- Authorizing a client gives it fresh replication state: nothing recorded as sent. -/
theorem C07_authorize_fresh (s : Server) (c : Nat) (cl : Cli) (hc : aget s.clients c = some cl)
    (hu : cl.authorized = false) :
    aget (s.authorize c).clients c = some { authorized := true } := by
  unfold Server.authorize Server.updClient
  rw [hc]
  simp only [hu, Bool.false_eq_true, if_false]
  exact aget_aset_same _ _ _

/-- With the default protocol check a client is authorized exactly when the hashes match and
is otherwise notified and asked to disconnect (the decision logic of `check_protocol`). -/
theorem C07_protocol_check (server client : Nat) :
    ((Proto.checkProtocol server client).authorized = true ↔ client = server) ∧
    (client ≠ server → (Proto.checkProtocol server client).mismatchSent = true ∧
      (Proto.checkProtocol server client).disconnectRequested = true) := by
  unfold Proto.checkProtocol
  by_cases h : client = server
  · simp [h]
  · simp [h]

/-- Over ALL histories of the joint server model (`Model/Joint.lean`): in the state any history
of operations leads to — however long a client has been connected without authorization and
whatever happened on the server — the next frame hands the transport update / mutate messages
and dependent (non-independent) events only for clients that are authorized in that state. -/
theorem C07_history (ops : List Joint.Op) (ticked : Bool) (ms : Nat) (parts : Nat → List (List Nat)) :
    (∀ c o, (c, o) ∈ (Joint.frame (Joint.run {} ops).1 ticked ms parts).2.1 →
      ∃ cl, (c, cl) ∈ (Joint.run {} ops).1.srv.clients ∧ cl.authorized = true) ∧
    (∀ o ∈ (Joint.frame (Joint.run {} ops).1 ticked ms parts).2.2, o.stamp.isSome →
      ∃ cl, (o.client, cl) ∈ (Joint.run {} ops).1.srv.clients ∧ cl.authorized = true) :=
  ⟨fun c o h => Joint.frame_replication_authorized _ ticked ms parts c o h,
   fun o ho hs => Joint.frame_events_authorized _ ticked ms parts o ho hs⟩

/-- Non-vacuity: the same history — while client 1 is connected without authorization three
replication runs send it nothing; the run after its authorization sends it the whole state. -/
example :
    let s0 : Joint.St := { srv := { rates := [(0, .every), (1, .every)] } }
    let ops : List Joint.Op :=
      [.start, .connect 0 true, .connect 1 false, .spawn 5 true [(0, 7)], .frame true 10 (fun _ => []),
       .frame true 10 (fun _ => []), .insert 5 1 9, .frame true 10 (fun _ => []), .authorize 1, .frame true 10 (fun _ => [])]
    ((Joint.run s0 ops).2.map fun fr => fr.1.map fun o => (o.1, o.2.update.map (·.changes.map fun m => (m.ent, m.comps)))) =
      [[], [], [], [], [(0, some [(5, [(0, 7)])])], [(0, none)], [], [(0, some [(5, [(1, 9)])])], [],
       [(1, some [(5, [(0, 7), (1, 9)])]), (0, none)]] := by
  rfl

/-- **"From the tick it becomes authorized it is sent the complete state visible to it", over
ALL histories** (`Proofs/Sync.lean`): after any history in which entity identifiers are not
reused, a client for which the server tracks nothing yet (it was just authorized, or just
connected under an authorization-free set-up) is sent, in the next frame in which
`send_replication` runs, an update message whose CHANGES section has a record for every entity
that carries the replication marker and is visible to it — each of them whole
(`C07_full_state_on_authorization`). -/
theorem C07_history_complete_state (s0 : Server) (hw : s0.world = []) (hc0 : s0.clients = []) (ops : List Joint.Op)
    (hl : Joint.Legal { srv := s0 } ops) (ticked : Bool) (ms : Nat) (parts : Nat → List (List Nat))
    (hr : (Joint.run { srv := s0 } ops).1.srv.running = true)
    (hc : (preRun (Joint.run { srv := s0 } ops).1.srv ticked ms).tickChanged = true)
    (c : Nat) (cl : Cli) (hm : (c, cl) ∈ (preRun (Joint.run { srv := s0 } ops).1.srv ticked ms).clients)
    (ha : cl.authorized = true) (hfresh : cl.mutTick = []) (e : Nat)
    (hmk : marked (preRun (Joint.run { srv := s0 } ops).1.srv ticked ms).world e)
    (hv : Vis.isVisible (preRun (Joint.run { srv := s0 } ops).1.srv ticked ms).white
      (cell (ranClient (preRun (Joint.run { srv := s0 } ops).1.srv ticked ms) parts (c, cl)).2 e) = true) :
    ∃ o u, (c, o) ∈ (Joint.frame (Joint.run { srv := s0 } ops).1 ticked ms parts).2.1 ∧
      o.update = some u ∧ e ∈ u.changes.map (·.ent) :=
  Joint.gain_of_sync _ (Joint.sync_run ops _ (Joint.sync_empty s0 hw hc0) hl) ticked ms parts hr hc c cl hm ha e
    (by unfold keys; rw [hfresh]; exact List.not_mem_nil) ⟨hmk, hv⟩

/-- **… the complete state, with its values** (`Proofs/RecordValues.lean`; over ALL histories, across
both models).  After any history (entity identifiers not reused, a stopped server sees a frame
before a restart, no pre-spawn mappings; replication rules for distinct components), for the
replication run of the next frame of a running server (the run of `send_replication` from the state
right before it, `preRun`, for the client as the first half of the frame leaves it, `preG`; the
frame performs it if the tick changed and the client is authorized), for every client and every entity
that run starts to track for it (`runBumped` and not tracked after `collect_despawns`: exactly the case
of a client that was just authorized — it tracks nothing yet, `C07_history_complete_state` — of a
spawn, and of an entity that became visible): the run assembles an update message for the client, and
the client model that was fed the session's update messages so far and applies this one has, for
every plain (not entity-valued) replicated component of the entity, exactly the server's
current value. -/
theorem C07_history_complete_state_values (s0 : Server) (hw : s0.world = []) (hc0 : s0.clients = []) (hb : s0.removalBuf = [])
    (hrates : (s0.rates.map (·.1)).Nodup)
    (ops : List Joint.Op) (hl : Joint.Legal2 { srv := s0 } ops) (ticked : Bool) (ms : Nat)
    (hr : (Joint.run { srv := s0 } ops).1.srv.running = true)
    (z : Nat × Cli) (hz : z ∈ (Joint.run { srv := s0 } ops).1.srv.clients)
    (e : Nat)
    (hnew : e ∉ keys (runCl1 (preRun (Joint.run { srv := s0 } ops).1.srv ticked ms) (preG (Joint.run { srv := s0 } ops).1.srv ms z.2)))
    (hbump : e ∈ runBumped (preRun (Joint.run { srv := s0 } ops).1.srv ticked ms)
      ((preRun (Joint.run { srv := s0 } ops).1.srv ticked ms).now + 1) (preG (Joint.run { srv := s0 } ops).1.srv ms z.2))
    (ent : SEnt) (hwld : (e, ent) ∈ (Joint.run { srv := s0 } ops).1.srv.world) :
    ∃ u, (runClient (preRun (Joint.run { srv := s0 } ops).1.srv ticked ms)
        ((preRun (Joint.run { srv := s0 } ops).1.srv ticked ms).now + 1) (preG (Joint.run { srv := s0 } ops).1.srv ms z.2)).2.update = some u ∧
      ∀ k r comp, (k, r, comp) ∈ present (Joint.run { srv := s0 } ops).1.srv ent →
        (Joint.replay ((Joint.runLog { srv := s0 } (fun _ => []) ops).2 z.1)).entityComps.contains k = false →
        Cli.valOn (Cli.applyUpdate (Joint.replay ((Joint.runLog { srv := s0 } (fun _ => []) ops).2 z.1)) u) e k = some comp.val :=
  Joint.history_new_entity_values s0 hw hc0 hb hrates ops hl ticked ms hr z hz e hnew hbump ent hwld

/-- `C07_history` for histories in which the tick also advances by more than one at once
(`Joint.OpJ`, `Proofs/Jump.lean`): in the state any such history leads to, the next frame hands
the transport replication messages and dependent events only for authorized clients. -/
theorem C07_history_with_tick_jumps (ops : List Joint.OpJ) (ticked : Bool) (ms : Nat) (parts : Nat → List (List Nat)) :
    (∀ c o, (c, o) ∈ (Joint.frame (Joint.runJ {} ops).1 ticked ms parts).2.1 →
      ∃ cl, (c, cl) ∈ (Joint.runJ {} ops).1.srv.clients ∧ cl.authorized = true) ∧
    (∀ o ∈ (Joint.frame (Joint.runJ {} ops).1 ticked ms parts).2.2, o.stamp.isSome →
      ∃ cl, (o.client, cl) ∈ (Joint.runJ {} ops).1.srv.clients ∧ cl.authorized = true) :=
  ⟨fun c o h => Joint.frame_replication_authorized _ ticked ms parts c o h,
   fun o ho hs => Joint.frame_events_authorized _ ticked ms parts o ho hs⟩

/-- `C07_history_complete_state` for histories with tick jumps: a client the server tracks nothing
for yet is sent, in the next frame with a replication run, a CHANGES record for every marked
entity visible to it. -/
theorem C07_history_complete_state_with_tick_jumps (s0 : Server) (hw : s0.world = []) (hc0 : s0.clients = [])
    (hb : s0.removalBuf = []) (ht : s0.lastRun < s0.now) (ops : List Joint.OpJ)
    (hl : Joint.LegalJ { srv := s0 } ops) (ticked : Bool) (ms : Nat) (parts : Nat → List (List Nat))
    (hr : (Joint.runLogJ { srv := s0 } (fun _ => []) ops).1.srv.running = true)
    (hc : (preRun (Joint.runLogJ { srv := s0 } (fun _ => []) ops).1.srv ticked ms).tickChanged = true)
    (c : Nat) (cl : Cli) (hm : (c, cl) ∈ (preRun (Joint.runLogJ { srv := s0 } (fun _ => []) ops).1.srv ticked ms).clients)
    (ha : cl.authorized = true) (hfresh : cl.mutTick = []) (e : Nat)
    (hmk : marked (preRun (Joint.runLogJ { srv := s0 } (fun _ => []) ops).1.srv ticked ms).world e)
    (hv : Vis.isVisible (preRun (Joint.runLogJ { srv := s0 } (fun _ => []) ops).1.srv ticked ms).white
      (cell (ranClient (preRun (Joint.runLogJ { srv := s0 } (fun _ => []) ops).1.srv ticked ms) parts (c, cl)).2 e) = true) :
    ∃ o u, (c, o) ∈ (Joint.frame (Joint.runLogJ { srv := s0 } (fun _ => []) ops).1 ticked ms parts).2.1 ∧
      o.update = some u ∧ e ∈ u.changes.map (·.ent) :=
  Joint.gain_of_sync _ (Joint.ksess_runJ ops _ _ (Joint.ksess_empty s0 hw hc0 hb ht) hl).sess.sync
    ticked ms parts hr hc c cl hm ha e (by unfold keys; rw [hfresh]; exact List.not_mem_nil) ⟨hmk, hv⟩

end Replicon.C07
