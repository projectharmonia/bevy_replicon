import Replicon.Proofs.JointLocal
/-
C13 — Singleplayer and listen-server logic sees each local event exactly once.

Model: `Model/Events.lean` — `clientEventPaths` (the run conditions `client_connected` /
`server_or_singleplayer` of `send` and `resend_locally`), `CBuf` with `CBuf.frame` (Bevy's
double-buffered `Events<E>`, replicon's `ClientEventReader` cursor, `reset` on connect, `send`,
draining `resend_locally`), `localDelivery` and `SrvEv.frame` (`ServerEvent::resend_locally_typed`
drains `ToClients<E>` and re-emits iff the local server is among the recipients).

The full statement is FALSE for the code as it is: known finding F13 — an event already sent to
the remote server stays in Bevy's buffer (the cursor only remembers that it was sent), and if
the client is disconnected before the buffer aged out, `resend_locally` drains and handles it a
second time.  `C13_both_paths_F13` is the machine-checked witness; the implementation replays it
(`findings/F13.trace`).  What holds, and is proved: one path per frame, nothing on the network
without a connection, nothing twice on either path over any history, and — under the hypothesis
`NoStale` that F13 violates — never both paths (`C13_one_path_partial`).
-/
namespace Replicon.C13
open Replicon Replicon.Evt

/-- the two systems' run conditions are mutually exclusive -/
theorem C13_conditions_exclusive (hasClient : Bool) (st : Status) :
    ¬((clientEventPaths hasClient st).toWire = true ∧ (clientEventPaths hasClient st).locally = true) := by
  cases hasClient <;> cases st <;> simp [clientEventPaths]

/-- within one frame an event takes at most one path -/
theorem C13_one_path_per_frame (q : CBuf) (aged jc : Bool) (st : Status) :
    (q.frame aged jc st).2.1 = [] ∨ (q.frame aged jc st).2.2 = [] :=
  q.frame_exclusive aged jc st

/-- nothing is put on the network when there is no connection -/
theorem C13_no_network_without_connection (q : CBuf) (aged jc : Bool) (st : Status) (h : st ≠ .connected) :
    (q.frame aged jc st).2.1 = [] := by
  rw [CBuf.frame_eq]
  cases st
  · rfl
  · rfl
  · exact absurd rfl h

/-- over any history nothing is re-emitted locally twice, nothing is sent twice -/
theorem C13_never_twice_on_a_path (steps : List CStep) :
    ((({} : CBuf).run steps).1.Pairwise fun x y => x.1 < y.1) ∧
    ((({} : CBuf).run steps).2.Pairwise fun x y => x.1 < y.1) :=
  ⟨(CBuf.run_outs {} steps CBuf.inv_init).wire_sorted, (CBuf.run_outs {} steps CBuf.inv_init).local_sorted⟩

/-- F13, machine-checked: sent to the remote server in one frame, handled locally in the next
(the session ended in between and Bevy's buffer had not aged out). -/
theorem C13_both_paths_F13 :
    ∃ steps : List CStep, ∃ x, x ∈ (({} : CBuf).run steps).1 ∧ x ∈ (({} : CBuf).run steps).2 :=
  ⟨[.emit 7, .frame false false .connected, .frame false false .disconnected], (0, 7), by decide, by decide⟩

/-- The exactly-one-path statement, under the hypothesis that no already-sent event is still
buffered when a frame runs disconnected (`NoStale`; it holds e.g. when the buffer aged twice in
between).  Missing for the full statement: `NoStale` itself, which F13 shows to be violable. -/
theorem C13_one_path_partial (steps : List CStep) (hs : ({} : CBuf).NoStale steps) :
    ∀ x ∈ (({} : CBuf).run steps).1, ∀ y ∈ (({} : CBuf).run steps).2, x.1 ≠ y.1 :=
  CBuf.run_disjoint {} steps CBuf.inv_init hs

/-- singleplayer (never connected): every event emitted before a frame is handled locally by it,
once, and nothing goes on the wire -/
theorem C13_singleplayer (q : CBuf) (aged : Bool) :
    (q.frame aged false .disconnected).2.1 = [] ∧
    (q.frame aged false .disconnected).2.2 = (if aged then q.age else q).items ∧
    (q.frame aged false .disconnected).1.items = [] := by
  cases aged <;> exact ⟨rfl, rfl, rfl⟩

/-- Towards clients: the local game observes an event exactly when the local server is among
the recipients, once, whether or not the server is running; `ToClients<E>` is drained. -/
theorem C13_local_server_events (s : SrvEv) (running ticked : Bool) (em : List Emitted) (peers : List Peer) :
    (s.frame running ticked true em peers).2.2 = (em.filter fun e => localDelivery e.ev.mode).map (·.ev.id) := by
  cases running
  · rw [SrvEv.frame_stopped]
    rfl
  · cases ticked
    · rw [SrvEv.frame_buffer]
      rfl
    · rw [SrvEv.frame_flush]
      rfl

theorem C13_local_recipient (m : Mode) :
    localDelivery m = true ↔ (m = .broadcast ∨ (∃ c, m = .except (some c)) ∨ m = .direct none) := by
  cases m with
  | broadcast => simp [localDelivery]
  | except c => cases c <;> simp [localDelivery]
  | direct c => cases c <;> simp [localDelivery]

/-- Towards clients, over ALL histories of the joint server model (any interleaving of world
operations, connects, stops and starts, emissions, frames; server running or not — the
singleplayer and listen-server cases): what the local game has observed, followed by what the
next frame will hand it, is exactly the sequence of emitted events whose recipients include
the local server, in emission order — each once, none other. -/
theorem C13_history_local (ops : List Joint.Op) :
    (Joint.run {} ops).1.localLog ++ Joint.localIds (Joint.run {} ops).1.pending = Joint.emittedLocal ops :=
  -- initially the local log and `pending` are empty: the prefix of the lemma's right side is `[]` by evaluation
  Joint.local_log ops {}

/-- `C13_history_local` for histories in which the tick also advances by more than one at once
(`Joint.OpJ`, `Proofs/Joint.lean`). -/
theorem C13_history_local_with_tick_jumps (ops : List Joint.OpJ) :
    (Joint.runJ {} ops).1.localLog ++ Joint.localIds (Joint.runJ {} ops).1.pending = Joint.emittedLocalJ ops :=
  Joint.local_logJ ops {}

/-- … so once a frame has run after the last emission, the local log is exactly that sequence -/
theorem C13_history_local_after_frame (ops : List Joint.Op) (t : Bool) (ms : Nat) (parts : Nat → List (List Nat)) :
    (Joint.run {} (ops ++ [.frame t ms parts])).1.localLog = Joint.emittedLocal ops := by
  have h := C13_history_local (ops ++ [.frame t ms parts])
  rw [Joint.pending_after_frame t ms parts ops {}, Joint.emittedLocal_append_frame] at h
  exact (List.append_nil _).symm.trans h

/-- Non-vacuity of `NoStale`: the session ends after the buffer aged out — one path only. -/
example :
    let steps : List CStep := [.emit 7, .frame false false .connected, .frame true false .connected,
      .frame true false .connected, .emit 8, .frame false false .disconnected]
    ({} : CBuf).NoStale steps ∧ (({} : CBuf).run steps) = ([(0, 7)], [(1, 8)]) := by
  refine ⟨?_, by decide⟩
  simp [CBuf.NoStale, CBuf.pre, CBuf.frame, CBuf.emit, CBuf.age, CBuf.items]

/-- Non-vacuity of the history theorem: emissions in every mode, before the server runs
(singleplayer) and while it runs with a client connected (listen server), one of them
independent: the local game observes 1, 2 (before the start) and 4, 6 — not the event addressed
to client 0 only, nor the one that excludes the local server. -/
example :
    let e (i : Nat) (m : Evt.Mode) (ind : Bool) : Joint.Op := .emit { ev := { id := i, chan := 2, mode := m }, independent := ind }
    let ops : List Joint.Op :=
      [e 1 .broadcast false, e 2 (.direct none) false, e 3 (.direct (some 0)) false, .frame false 10 (fun _ => []),
       .start, .connect 0 true, e 4 (.except (some 0)) false, e 5 (.except none) false, e 6 .broadcast true,
       .frame true 10 (fun _ => [])]
    ((Joint.run {} ops).1.localLog, Joint.emittedLocal ops) = ([1, 2, 4, 6], [1, 2, 4, 6]) := by
  decide

end Replicon.C13
