import Replicon.Proofs.JointEvents
/-
C05 — Remote events: exactly once, in order, to the intended recipients only.

Model: `Model/Events.lean` — towards clients: `SrvEv` (`BufferedServerEvents`: sets per
`send_or_buffer` run, `exclude_client`, `send_all`), `sendIndependent`, `SrvEv.frame`; on the
client: `receive` (`ClientEventQueue` + `receive_typed`).  Towards the server: `CBuf`
(`Events<E>` + `ClientEventReader`) and `receiveFrom` (`ClientEvent::receive_typed`: the sender
identity is the one the transport attached to the message).

`C05_history_*` are statements over ALL histories of the joint server model
(`Model/Joint.lean`: any interleaving of world operations, connects, authorizations,
disconnects, stops, starts, emissions and frames with or without a tick, any number of
clients), proved by induction over the operation list.  The other theorems are about one side
each; the transport between them (ordered reliable channels
deliver every message once and in order, unreliable ones at most once) is an assumption about
the backend, checked for the example backend in C17.  The composition over whole sessions is
checked by the C05 oracles on the implementation (exactly once after quiescence, recipients,
order per receiver and type, sender identity, no event from before the connect) and the
lock-step comparison of `SrvEv.frame`, `receive` and `CBuf.frame` with the implementation.
-/
namespace Replicon.C05
open Replicon Replicon.Evt

/-- Recipients of a dependent event: exactly the connected clients the mode selects that are
authorized and did not connect after the event was buffered — nobody else. -/
theorem C05_recipients (peers : List Peer) (excl : List Nat) (e : Ev) (c : Nat) :
    (∃ o ∈ sendEvent peers excl e, o.client = c) ↔
      ∃ p ∈ peers, p.id = c ∧ c ∉ excl ∧ selects e.mode c = true ∧ p.authorized = true := by
  constructor
  · rintro ⟨o, ho, rfl⟩
    obtain ⟨p, hp, hex, hsel, ha, rfl⟩ := mem_sendEvent.mp ho
    exact ⟨p, hp, rfl, hex, hsel, ha⟩
  · rintro ⟨p, hp, rfl, hex, hsel, ha⟩
    exact ⟨_, mem_sendEvent.mpr ⟨p, hp, hex, hsel, ha, rfl⟩, rfl⟩

/-- the three modes: all, all but one, one -/
theorem C05_modes (c : Nat) :
    selects .broadcast c = true ∧
    (∀ x, selects (.except x) c = true ↔ x ≠ some c) ∧
    (∀ x, selects (.direct x) c = true ↔ x = some c) := by
  refine ⟨rfl, fun x => ?_, fun x => ?_⟩ <;> simp [selects]

/-- independent events: every connected client the mode selects, authorized or not -/
theorem C05_recipients_independent (peers : List Peer) (e : Ev) (c : Nat) :
    (∃ o ∈ sendIndependent peers e, o.client = c) ↔ ∃ p ∈ peers, p.id = c ∧ selects e.mode c = true := by
  constructor
  · rintro ⟨o, ho, rfl⟩
    obtain ⟨p, hp, hsel, rfl⟩ := mem_sendIndependent.mp ho
    exact ⟨p, hp, rfl, hsel⟩
  · rintro ⟨p, hp, rfl, hsel⟩
    exact ⟨_, mem_sendIndependent.mpr ⟨p, hp, hsel, rfl⟩, rfl⟩

/-- at most one message per client and event -/
theorem C05_once_per_client (peers : List Peer) (excl : List Nat) (e : Ev)
    (h : (peers.map (·.id)).Nodup) : ((sendEvent peers excl e).map (·.client)).Nodup :=
  sendEvent_nodup peers excl e h

/-- per client, one flush sends the buffered events in buffering order, none twice -/
theorem C05_server_order (s : SrvEv) (peers : List Peer) (c : Nat) (h : (peers.map (·.id)).Nodup) :
    List.Sublist (((s.sendAll peers).filter fun o => o.client = c).map (·.id))
      ((s.buffer.flatMap (·.events)).map (·.id)) := by
  unfold SrvEv.sendAll sendSet
  rw [List.filter_flatMap, List.map_flatMap, List.map_flatMap]
  refine flatMap_sublist _ _ _ fun b _ => ?_
  rw [List.filter_flatMap, List.map_flatMap, List.map_eq_flatMap]
  exact flatMap_sublist _ _ _ fun e _ =>
    sendEvent_ids_sublist peers b.excluded e c _ (fun _ ho => of_decide_eq_true ho) h

/-- nothing is sent again on later frames: a tick's flush leaves the buffer empty, and an empty
buffer sends nothing -/
theorem C05_not_again (s : SrvEv) (localOk : Bool) (em : List Emitted) (peers peers' : List Peer) :
    ((s.frame true true localOk em peers).1).sendAll peers' = [] := by
  rw [SrvEv.frame_flush]
  rfl

/-- A client never receives an event buffered before it connected — whatever is buffered and
whoever connects afterwards; what is buffered after the connect is unaffected. -/
theorem C05_late_joiner (s : SrvEv) (c : Nat) (es : List Ev) (peers : List Peer) :
    (∀ o ∈ (s.exclude c).sendAll peers, o.client ≠ c) ∧
    (∀ o ∈ ((s.exclude c).bufferEvents es).sendAll peers, o.client = c → o ∈ sendSet peers { events := es }) ∧
    (∀ d, ∀ o ∈ ((s.exclude c).exclude d).sendAll peers, o.client ≠ c) :=
  ⟨fun _ ho => (mem_sendAll_exclude.mp ho).2,
   fun o ho hc => by
    rw [sendAll_bufferEvents] at ho
    exact (List.mem_append.mp ho).resolve_left fun h => (mem_sendAll_exclude.mp h).2 hc,
   fun _ _ ho => (mem_sendAll_exclude.mp (mem_sendAll_exclude.mp ho).1).2⟩

/-- a stopped server sends nothing -/
theorem C05_not_running (s : SrvEv) (ticked localOk : Bool) (em : List Emitted) (peers : List Peer) :
    (s.frame false ticked localOk em peers).2.1 = [] := by
  rw [SrvEv.frame_stopped]

/-- Client side, exactly once: what is delivered now together with what still waits is a
permutation of what waited before together with what arrived — nothing lost, nothing doubled. -/
theorem C05_client_exactly_once (u : Nat) (q : Queue) (inc : List (Nat × Nat)) :
    ((receive u q inc).1 ++ (receive u q inc).2.items).Perm (q.items ++ inc) := by
  unfold receive
  dsimp only
  refine (List.Perm.append_left _ (foldl_insert_perm _ _)).trans ?_
  have h1 := List.filter_append_perm (fun x : Nat × Nat => decide (x.1 ≤ u)) q.items
  have h2 := List.filter_append_perm (fun x : Nat × Nat => decide (x.1 ≤ u)) inc
  refine List.Perm.trans ?_ (h1.append h2)
  rw [List.append_assoc, List.append_assoc]
  exact List.Perm.append_left _ (List.perm_append_comm_assoc _ _ _)

/-- Client side, order: with stamps that do not decrease along the arrival order (ordered
channel; the server's stamps per client never decrease), events are delivered in arrival order
and the queue keeps the rest in arrival order. -/
theorem C05_client_order (u : Nat) (q : Queue) (inc : List (Nat × Nat))
    (h : (q.items ++ inc).Pairwise fun x y => x.1 ≤ y.1) :
    (receive u q inc).1 ++ (receive u q inc).2.items = q.items ++ inc := by
  unfold receive
  dsimp only
  -- what waits is a sub-sequence of a sorted sequence, so queueing it keeps the arrival order
  rw [foldl_insert_append _ _ (by rw [← List.filter_append]; exact h.sublist List.filter_sublist),
    ← List.filter_append, ← List.filter_append]
  exact filter_split_of_sorted u _ h

/-- the queue stays sorted by stamp, so "pop while the first key is ≤ the update tick" and
"take everything ≤ the update tick" are the same thing -/
theorem C05_queue_sorted (u : Nat) (q : Queue) (inc : List (Nat × Nat))
    (h : q.items.Pairwise fun x y => x.1 ≤ y.1) :
    (receive u q inc).2.items.Pairwise fun x y => x.1 ≤ y.1 := by
  unfold receive
  exact foldl_insert_sorted _ _ (h.sublist List.filter_sublist)

/-- Towards the server: over any history of emissions and frames (any ageing of Bevy's buffer,
any sequence of connection states) no event is put on the wire twice, and the wire carries the
events in emission order. -/
theorem C05_client_event_once (steps : List CStep) :
    (({} : CBuf).run steps).1.Pairwise fun x y => x.1 < y.1 :=
  (CBuf.run_outs {} steps CBuf.inv_init).wire_sorted

/-- the server-side logic sees the identity the transport attached, unchanged -/
theorem C05_sender_identity (msgs : List (Nat × Nat)) : (receiveFrom msgs).map (·.1) = msgs.map (·.1) := rfl

/-- Over every history from the initial state, for every client and channel: the dependent
events handed to the transport are a sub-sequence of the events emitted on that channel, in
emission order.  So nothing is sent twice — in the same frame or in a later one — and nothing
is sent that was not emitted. -/
theorem C05_history_order (c ch : Nat) (ops : List Joint.Op) :
    List.Sublist (Joint.sentIds c ch (Joint.run {} ops).2) (Joint.emittedIds ch ops) :=
  -- initially nothing is buffered or pending: `Joint.remaining {} c ch` is `[]` by evaluation
  Joint.sent_sub c ch ops {} Joint.inv_init

/-- at most once: with distinct payloads, no payload goes to the same client twice -/
theorem C05_history_at_most_once (c ch : Nat) (ops : List Joint.Op) (h : (Joint.emittedIds ch ops).Nodup) :
    (Joint.sentIds c ch (Joint.run {} ops).2).Nodup :=
  (C05_history_order c ch ops).nodup h

/-- A client never receives an event sent before it connected: from any reachable state, after
`connect c`, whatever the rest of the history does, client `c` is handed only events emitted
since the last frame (they are sent in the frame that follows) or later — nothing that was
already buffered. -/
theorem C05_history_late_joiner (c ch : Nat) (a : Bool) (st : Joint.St) (inv : Joint.Inv st) (ops : List Joint.Op) :
    List.Sublist (Joint.sentIds c ch (Joint.run (Joint.step st (.connect c a)).1 ops).2)
      (Joint.depIds ch st.pending ++ Joint.emittedIds ch ops) :=
  Joint.sent_sub_connect c ch a ops st inv

/-- … and every state a history reaches satisfies the invariant that theorem needs -/
theorem C05_history_reachable (ops : List Joint.Op) : Joint.Inv (Joint.run {} ops).1 :=
  (Joint.inv_run ops {} Joint.inv_init).1

/-- `C05_history_order` / `_at_most_once` / `_late_joiner` for histories in which the tick also
advances by more than one at once (`Joint.OpJ`, `Proofs/Joint.lean`). -/
theorem C05_history_order_with_tick_jumps (c ch : Nat) (ops : List Joint.OpJ) :
    List.Sublist (Joint.sentIds c ch (Joint.runJ {} ops).2) (Joint.emittedIdsJ ch ops) :=
  Joint.sent_subJ c ch ops {} Joint.inv_init

theorem C05_history_at_most_once_with_tick_jumps (c ch : Nat) (ops : List Joint.OpJ)
    (h : (Joint.emittedIdsJ ch ops).Nodup) : (Joint.sentIds c ch (Joint.runJ {} ops).2).Nodup :=
  (C05_history_order_with_tick_jumps c ch ops).nodup h

theorem C05_history_late_joiner_with_tick_jumps (c ch : Nat) (a : Bool) (st : Joint.St) (inv : Joint.Inv st)
    (ops : List Joint.OpJ) :
    List.Sublist (Joint.sentIds c ch (Joint.runJ (Joint.step st (.connect c a)).1 ops).2)
      (Joint.depIds ch st.pending ++ Joint.emittedIdsJ ch ops) :=
  Joint.sent_subJ_connect c ch a ops st inv

/-- Non-vacuity with jumps: the history of the next example with the tick jumping by 200 and by
4294967296 between the frames; the same events reach the same clients. -/
example :
    let e (i : Nat) : Joint.OpJ := .op (.emit { ev := { id := i, chan := 2, mode := .broadcast }, independent := false })
    let f (t : Bool) : Joint.OpJ := .op (.frame t 10 (fun _ => []))
    let ops : List Joint.OpJ :=
      [.op .start, .op (.connect 0 true), e 10, f true, .jump 200, e 11, f false,
       .op (.connect 1 true), e 12, .jump 4294967296, f false, f true, f true]
    (Joint.sentIds 0 2 (Joint.runJ {} ops).2, Joint.sentIds 1 2 (Joint.runJ {} ops).2, Joint.emittedIdsJ 2 ops) =
      ([10, 11, 12], [12], [10, 11, 12]) := by
  decide +kernel

/-- Non-vacuity: two events buffered over two frames without a tick, a client connecting in
between two emissions, a tick: the early client gets all three in order, the late one only what
was emitted after it connected; a later tick sends nothing again. -/
example :
    let e (i : Nat) : Joint.Op := .emit { ev := { id := i, chan := 2, mode := .broadcast }, independent := false }
    let ops : List Joint.Op :=
      [.start, .connect 0 true, e 10, .frame true 10 (fun _ => []), e 11, .frame false 10 (fun _ => []),
       .connect 1 true, e 12, .frame false 10 (fun _ => []), .frame true 10 (fun _ => []), .frame true 10 (fun _ => [])]
    (Joint.sentIds 0 2 (Joint.run {} ops).2, Joint.sentIds 1 2 (Joint.run {} ops).2, Joint.emittedIds 2 ops) =
      ([10, 11, 12], [12], [10, 11, 12]) := by
  decide +kernel

/-- Non-vacuity: three clients, one joined late, one unauthorized. -/
example :
    let peers : List Peer := [⟨0, true, 3⟩, ⟨1, true, 5⟩, ⟨2, false, 0⟩, ⟨3, true, 1⟩]
    let s := ((({} : SrvEv).bufferEvents [⟨7, 2, .broadcast⟩, ⟨8, 2, .except (some 0)⟩]).exclude 3).bufferEvents [⟨9, 2, .direct (some 3)⟩]
    (s.sendAll peers).map (fun o => (o.client, o.id, o.stamp)) =
      [(0, 7, some 3), (1, 7, some 5), (1, 8, some 5), (3, 9, some 1)] := by
  decide

example :
    (({} : CBuf).run [.emit 5, .emit 6, .frame false false .connected, .emit 7, .frame true false .connected,
      .frame true false .connected]).1 = [(0, 5), (1, 6), (2, 7)] := by
  decide

end Replicon.C05
