import Replicon.Proofs.Fresh
import Replicon.Proofs.Jump
/-
C09 — Disconnects, reconnects and server restarts start from a clean slate.

Model: `Model/Client.lean` (`reset`, run condition `client_just_disconnected`),
`Model/Server.lean` (`disconnect`, `stop` / `reset`).  "Crash points" are the session cuts: the
library keeps no state outside memory.  The new session's first round is a theorem across both
models (`C09_new_session_round_trip`, from `Proofs/Fresh.lean`).  That neither side panics is shown
on the implementation by the trace validation
(a disconnect or stop at arbitrary points of generated histories).  Known finding F13 (client
panic after a disconnect under the default protocol check) is outside these theorems.
-/
namespace Replicon.C09
open Replicon Replicon.Srv Replicon.Cli

/-- The client: in its first frame after the session ended nothing received, buffered or
recorded during the old session survives in the protocol state, whatever was in flight.  (The
statement lists the update tick, the entity map in both directions, the buffered mutate messages
and the acknowledgements; `Cli.frame_disconnected` is the whole frame, with the mutate ticks and
the notified ticks reset too and the world kept.) -/
theorem C09_client_reset (c : Client) (us : List Update) (ms : List Mutate)
    (h1 : c.lastNotDisconnected = true) (h2 : c.connected = false) :
    (frame c us ms).updateTick = 0 ∧ (frame c us ms).s2c = [] ∧ (frame c us ms).c2s = [] ∧
    (frame c us ms).buffered = [] ∧ (frame c us ms).acks = [] := by
  rw [frame_disconnected c us ms h1 h2]
  exact ⟨rfl, rfl, rfl, rfl, rfl⟩

/-- The server keeps nothing of a disconnected client. -/
theorem C09_server_forgets_client (s : Server) (c : Nat) : aget (s.disconnect c).clients c = none := by
  unfold Server.disconnect
  exact aget_adel_same _ _

/-- A stopped server, after the frame in which `reset` runs: tick 0, no clients, nothing
buffered (the removal and despawn buffers too — F16 repair). -/
theorem C09_server_reset (s : Server) :
    s.stop.reset.tick = 0 ∧ s.stop.reset.clients = [] ∧ s.stop.reset.despawnBuf = [] ∧ s.stop.reset.removalBuf = [] := by
  unfold Server.stop Server.reset
  exact ⟨rfl, rfl, rfl, rfl⟩

/-- A client that connects (or is authorized) after a restart or a reconnect starts from fresh
replication state on the server … -/
theorem C09_fresh_session (s : Server) (c : Nat) (a : Bool) :
    aget (s.connect c a).clients c = some { authorized := a } := by
  unfold Server.connect
  exact aget_aset_same _ _ _

/-- A new session converges in one perfect round, whatever the old session left behind: the
client ran the frame that saw the disconnect (`c` is any client state, `us`/`ms` whatever was
still delivered), reconnects, and applies the update message the server sends a client it has
no state for (`Fresh.freshCli` is what `connect` / `authorize` create).  Then the client holds
one new entity per replicated server entity — mapped, marked, confirmed at the server's tick,
with exactly the server's replicated components and values (`Fresh.Good`) — and nothing it held
before was touched.  Hypotheses: blacklist policy (nothing hidden), nothing buffered on the
server, at least one replicated entity (otherwise no update message is sent), distinct entity ids,
no entity-valued components (component id 4 of the harness, the client's only entity-valued kind:
`hec`), ids from `c.next` on unused (the allocator's invariant). -/
theorem C09_new_session_round_trip (s : Server) (thisRun : Nat) (c : Client) (us : List Update) (ms : List Mutate)
    (h1 : c.lastNotDisconnected = true) (h2 : c.connected = false)
    (halloc : ∀ j, c.next ≤ j → aget c.world j = none) (hec : c.entityComps = [4])
    (hw : s.white = false) (hd : s.despawnBuf = []) (hr : s.removalBuf = []) (hne : Fresh.viewMsgs s ≠ [])
    (hkeys : (s.world.map (·.1)).Nodup) (hplain : ∀ m ∈ Fresh.viewMsgs s, ∀ kv ∈ m.comps, kv.1 ≠ 4) :
    ∃ u, (runClient s thisRun Fresh.freshCli).2.update = some u ∧
      Fresh.Good s.tick { frame c us ms with connected := true }
        (applyUpdate { frame c us ms with connected := true } u) (Fresh.viewMsgs s) :=
  Fresh.fresh_round_trip s thisRun _ (Fresh.session_start_after_reset c us ms h1 h2 halloc hec) hw hd hr hne hkeys hplain

/-- what `connect` and `authorize` create on the server is that fresh state -/
theorem C09_server_state_is_fresh (s : Server) (c : Nat) :
    aget (s.connect c true).clients c = some Fresh.freshCli :=
  aget_aset_same _ _ _

/-- **Every session starts from a clean slate — entities, over ALL histories, across both models**
(`Proofs/Session.lean`; the statement of `C03_history_session`).  The ghost log of `Joint.runLog` is emptied when a client connects, so it
holds the update messages of the client's *current* session only; the receiver is the client
model started *fresh* (what `C09_client_reset` shows the client to be after a disconnect).
After any history — with any number of disconnects, reconnects, server stops and restarts,
whatever was tracked, buffered or hidden for the client in earlier sessions; entity identifiers
not reused, a stopped server sees a frame before a restart, no pre-spawn mappings — that ends
with a frame in which `send_replication` ran: the fresh receiver fed the current session's
update messages in order holds exactly the replicated entities visible to the client, and none
of those messages failed on it.  Nothing of an earlier session is needed for, or leaks into,
that set. -/
theorem C09_history_session_clean (s0 : Server) (hw : s0.world = []) (hc0 : s0.clients = []) (hb : s0.removalBuf = [])
    (ops : List Joint.Op) (ticked : Bool) (ms : Nat) (parts : Nat → List (List Nat))
    (hl : Joint.Legal2 { srv := s0 } (ops ++ [.frame ticked ms parts]))
    (hr : (Joint.run { srv := s0 } ops).1.srv.running = true)
    (hc : (preRun (Joint.run { srv := s0 } ops).1.srv ticked ms).tickChanged = true) :
    ∀ x ∈ (Joint.run { srv := s0 } (ops ++ [.frame ticked ms parts])).1.srv.clients, x.2.authorized = true →
      WF (Joint.replay ((Joint.runLog { srv := s0 } (fun _ => []) (ops ++ [.frame ticked ms parts])).2 x.1)) ∧
      ∀ se, held (Joint.replay ((Joint.runLog { srv := s0 } (fun _ => []) (ops ++ [.frame ticked ms parts])).2 x.1)) se ↔
        marked (Joint.run { srv := s0 } (ops ++ [.frame ticked ms parts])).1.srv.world se ∧
        Vis.isVisible (Joint.run { srv := s0 } (ops ++ [.frame ticked ms parts])).1.srv.white (cell x.2 se) = true :=
  Joint.session_view s0 hw hc0 hb ops ticked ms parts hl hr hc

/-- Non-vacuity: a history with a disconnect / reconnect of client 0, and a server stop, frame,
restart; the hypotheses hold, and the log of client 0 holds one message (of the last session). -/
example :
    let s0 : Server := { rates := [(0, .every)] }
    let ops : List Joint.Op :=
      [.start, .connect 0 true, .spawn 5 true [(0, 7)], .frame true 10 (fun _ => []), .spawn 6 true [],
       .frame true 10 (fun _ => []), .disconnect 0, .connect 0 true, .frame true 10 (fun _ => []),
       .stop, .frame false 10 (fun _ => []), .start, .connect 0 true, .despawn 5]
    Joint.Legal2 { srv := s0 } (ops ++ [.frame true 10 (fun _ => [])]) ∧
    (Joint.run { srv := s0 } ops).1.srv.running = true ∧
    (preRun (Joint.run { srv := s0 } ops).1.srv true 10).tickChanged = true ∧
    ((Joint.runLog { srv := s0 } (fun _ => []) (ops ++ [.frame true 10 (fun _ => [])])).2 0).length = 1 ∧
    ((Joint.replay ((Joint.runLog { srv := s0 } (fun _ => []) (ops ++ [.frame true 10 (fun _ => [])])).2 0)).s2c.map (·.1)) = [6] := by
  decide

/-- `C09_history_session_clean` for histories in which the tick also advances by more than one at
once (`Joint.OpJ`, `Proofs/Jump.lean`) — in particular a session that reached a high tick, a server
restart (the tick starts from 0 again) and a new session at low ticks. -/
theorem C09_history_session_clean_with_tick_jumps (s0 : Server) (hw : s0.world = []) (hc0 : s0.clients = [])
    (hb : s0.removalBuf = []) (ht : s0.lastRun < s0.now) (ops : List Joint.OpJ)
    (hl : Joint.LegalJ { srv := s0 } ops) (ticked : Bool) (ms : Nat) (parts : Nat → List (List Nat))
    (hr : (Joint.runLogJ { srv := s0 } (fun _ => []) ops).1.srv.running = true)
    (hc : (preRun (Joint.runLogJ { srv := s0 } (fun _ => []) ops).1.srv ticked ms).tickChanged = true) :
    ∀ x ∈ (Joint.step (Joint.runLogJ { srv := s0 } (fun _ => []) ops).1 (.frame ticked ms parts)).1.srv.clients,
      x.2.authorized = true →
      WF (Joint.replay (Joint.logStep (Joint.runLogJ { srv := s0 } (fun _ => []) ops).1
            (Joint.runLogJ { srv := s0 } (fun _ => []) ops).2 (.frame ticked ms parts) x.1)) ∧
      ∀ se, held (Joint.replay (Joint.logStep (Joint.runLogJ { srv := s0 } (fun _ => []) ops).1
            (Joint.runLogJ { srv := s0 } (fun _ => []) ops).2 (.frame ticked ms parts) x.1)) se ↔
        marked (Joint.step (Joint.runLogJ { srv := s0 } (fun _ => []) ops).1 (.frame ticked ms parts)).1.srv.world se ∧
        Vis.isVisible (Joint.step (Joint.runLogJ { srv := s0 } (fun _ => []) ops).1 (.frame ticked ms parts)).1.srv.white
          (cell x.2 se) = true :=
  fun x hx ha => (Joint.session_with_jumps s0 hw hc0 hb ht ops hl ticked ms parts hr hc x hx ha).1

/-- Non-vacuity: the first session reaches tick 202, the server is stopped and restarted (tick 0
again), the client reconnects; the hypotheses hold, the update message of the new session carries
tick 1 and the fresh receiver holds entities 5 and 6 (and only those). -/
example :
    let s0 : Server := { rates := [(0, .every)] }
    let f (t : Bool) : Joint.OpJ := .op (.frame t 10 (fun _ => []))
    let ops : List Joint.OpJ :=
      [.op .start, .op (.connect 0 true), .op (.spawn 5 true [(0, 7)]), f true, .jump 200, .op (.spawn 6 true []),
       f true, .op .stop, f false, .op .start, .op (.connect 0 true)]
    Joint.LegalJ { srv := s0 } ops ∧
    (Joint.runLogJ { srv := s0 } (fun _ => []) ops).1.srv.running = true ∧
    (preRun (Joint.runLogJ { srv := s0 } (fun _ => []) ops).1.srv true 10).tickChanged = true ∧
    s0.lastRun < s0.now ∧
    (Joint.runLogJ { srv := s0 } (fun _ => []) [.op .start, .op (.connect 0 true), .op (.spawn 5 true [(0, 7)]), f true,
      .jump 200, .op (.spawn 6 true []), f true]).1.srv.tick = 202 ∧
    ((Joint.logStep (Joint.runLogJ { srv := s0 } (fun _ => []) ops).1 (Joint.runLogJ { srv := s0 } (fun _ => []) ops).2
        (.frame true 10 (fun _ => [])) 0).map (·.tick)) = [1] ∧
    ((Joint.replay (Joint.logStep (Joint.runLogJ { srv := s0 } (fun _ => []) ops).1
        (Joint.runLogJ { srv := s0 } (fun _ => []) ops).2 (.frame true 10 (fun _ => [])) 0)).s2c.map (·.1)) = [5, 6] := by
  decide +kernel

end Replicon.C09
