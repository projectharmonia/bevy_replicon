import Replicon.Proofs.Packing
/-
C10 — Mutations of one entity or of related entities are never split across messages.

Model: `Model/Packing.lean` (`can_pack`, the chunking loop of `Mutations::send`).  A chunk is
the unit the property speaks about (one standalone entity's mutations, or one graph of related
entities); the theorems hold for every list of chunk sizes, every header size and every maximum
message size.  Which entities form a graph (`RelatedEntities`, petgraph) is a specification
("connected components of the registered relationship among replicated entities") checked
against the implementation by the trace validation, not modelled.
-/
namespace Replicon.C10
open Replicon Replicon.Packing

/-- The messages are a partition of the chunk list into consecutive runs: no chunk is lost,
duplicated, reordered or divided. -/
theorem C10_partition (header max : Nat) (sizes : List Nat) (track : Bool) :
    (split header max sizes track).flatten = sizes := by
  unfold split
  rw [finish_flatten, fold_all]
  rfl

theorem sublist_flatten {l₁ l₂ : List (List Nat)} (h : List.Sublist l₁ l₂) :
    List.Sublist l₁.flatten l₂.flatten := by
  induction h with
  | slnil => exact List.Sublist.refl _
  | cons a _ ih =>
    rw [List.flatten_cons]
    exact ih.trans (List.sublist_append_right _ _)
  | cons_cons a _ ih =>
    rw [List.flatten_cons, List.flatten_cons]
    exact List.Sublist.append (List.Sublist.refl _) ih

/-- Whatever subset of one tick's messages reaches the client (in any order the transport
keeps or not — a sub-list is taken for definiteness), it consists of whole chunks: every entity
and every related group is either completely contained or completely absent. -/
theorem C10_atomic (header max : Nat) (sizes : List Nat) (track : Bool) (delivered : List (List Nat))
    (h : List.Sublist delivered (split header max sizes track)) :
    List.Sublist delivered.flatten sizes := by
  have := sublist_flatten h
  rwa [C10_partition] at this

/-- When each entity's (or group's) mutations fit within the maximum message size, no
message exceeds it. -/
theorem C10_size_bound (header max : Nat) (sizes : List Nat) (track : Bool)
    (hfit : ∀ m ∈ sizes, header + m ≤ max) (hh : header ≤ max) :
    ∀ msg ∈ split header max sizes track, header + msg.sum ≤ max := by
  intro msg hmem
  have inv := fold_fits header max sizes {} hfit (Fits.init header max)
  rcases (mem_finish _ track msg).mp hmem with h | ⟨rfl, _⟩
  · exact inv.done msg h
  · by_cases hc : (sizes.foldl (step header max) {}).cur = []
    · -- the empty message sent for the sake of tracking
      rw [hc]
      exact hh
    · exact inv.closed hc

/-- When everything fits into one message only one is sent. -/
theorem C10_single (header max : Nat) (sizes : List Nat) (track : Bool) (hh : 0 < header)
    (hfit : header + sizes.sum ≤ max) (hne : sizes ≠ []) :
    (split header max sizes track).length = 1 := by
  rw [split_of_fits header max sizes track hh hfit hne]
  rfl

/-- Non-vacuity: the repository's own `splitting` expectations, evaluated on the model
(header 4 = update tick + server tick + mutate index for small ticks). -/
example : (split 4 1200 [700, 700] false).length = 2 ∧ (split 4 1200 [1300, 700] false).length = 1
    ∧ (split 4 1200 [20, 20] false).length = 1 ∧ (split 4 1200 [] true).length = 1 := by decide

/-- Known finding F22, machine-checked on the packing model (replay: `findings/F22.trace`): with
per-tick tracking the loop reasons with a header of 14 bytes (10 reserved for a counter that
takes 1).  Chunks of 107 and 34 bytes against a maximum of 120: 14 + 107 = 121 leaves a
"dangling" byte, so the second chunk is packed and the message goes out with 5 + 141 = 146
bytes — although by the real header size each chunk fits a message of its own. -/
theorem C10_known_finding_F22_witness :
    split 14 120 [107, 34] true = [[107, 34]] ∧ split 5 120 [107, 34] false = [[107], [34]] := by
  decide

end Replicon.C10
